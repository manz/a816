/-!
# Spec — the 65c816 opcode matrix (independent of a816)

Transcribed from the WDC W65C816S datasheet opcode matrix (DESIGN.md Appendix F); this file is
committed, never regenerated from `/repo`.  Two sanity theorems guard the transcription itself: `matrix_bytes` and
`matrix_codes` are evaluated by the kernel, `matrix_no_dup` follows from the second.
-/
namespace A816.Spec

inductive Shape
  | imp | acc | imm | dp | abs | long | dpx | absx | longx | dpy | absy | sr
  | ind | indy | indl | indly | indx | sry | absind | absindx | absindl | rel | rell | mv
  deriving DecidableEq, Repr, Inhabited

/-- (opcode byte, mnemonic, addressing shape) for all 256 opcodes -/
def matrix : List (Nat × String × Shape) := [
  (0x00, "brk", .imp),
  (0x01, "ora", .indx),
  (0x02, "cop", .imm),
  (0x03, "ora", .sr),
  (0x04, "tsb", .dp),
  (0x05, "ora", .dp),
  (0x06, "asl", .dp),
  (0x07, "ora", .indl),
  (0x08, "php", .imp),
  (0x09, "ora", .imm),
  (0x0A, "asl", .acc),
  (0x0B, "phd", .imp),
  (0x0C, "tsb", .abs),
  (0x0D, "ora", .abs),
  (0x0E, "asl", .abs),
  (0x0F, "ora", .long),
  (0x10, "bpl", .rel),
  (0x11, "ora", .indy),
  (0x12, "ora", .ind),
  (0x13, "ora", .sry),
  (0x14, "trb", .dp),
  (0x15, "ora", .dpx),
  (0x16, "asl", .dpx),
  (0x17, "ora", .indly),
  (0x18, "clc", .imp),
  (0x19, "ora", .absy),
  (0x1A, "inc", .acc),
  (0x1B, "tcs", .imp),
  (0x1C, "trb", .abs),
  (0x1D, "ora", .absx),
  (0x1E, "asl", .absx),
  (0x1F, "ora", .longx),
  (0x20, "jsr", .abs),
  (0x21, "and", .indx),
  (0x22, "jsl", .long),
  (0x23, "and", .sr),
  (0x24, "bit", .dp),
  (0x25, "and", .dp),
  (0x26, "rol", .dp),
  (0x27, "and", .indl),
  (0x28, "plp", .imp),
  (0x29, "and", .imm),
  (0x2A, "rol", .acc),
  (0x2B, "pld", .imp),
  (0x2C, "bit", .abs),
  (0x2D, "and", .abs),
  (0x2E, "rol", .abs),
  (0x2F, "and", .long),
  (0x30, "bmi", .rel),
  (0x31, "and", .indy),
  (0x32, "and", .ind),
  (0x33, "and", .sry),
  (0x34, "bit", .dpx),
  (0x35, "and", .dpx),
  (0x36, "rol", .dpx),
  (0x37, "and", .indly),
  (0x38, "sec", .imp),
  (0x39, "and", .absy),
  (0x3A, "dec", .acc),
  (0x3B, "tsc", .imp),
  (0x3C, "bit", .absx),
  (0x3D, "and", .absx),
  (0x3E, "rol", .absx),
  (0x3F, "and", .longx),
  (0x40, "rti", .imp),
  (0x41, "eor", .indx),
  (0x42, "wdm", .imm),
  (0x43, "eor", .sr),
  (0x44, "mvp", .mv),
  (0x45, "eor", .dp),
  (0x46, "lsr", .dp),
  (0x47, "eor", .indl),
  (0x48, "pha", .imp),
  (0x49, "eor", .imm),
  (0x4A, "lsr", .acc),
  (0x4B, "phk", .imp),
  (0x4C, "jmp", .abs),
  (0x4D, "eor", .abs),
  (0x4E, "lsr", .abs),
  (0x4F, "eor", .long),
  (0x50, "bvc", .rel),
  (0x51, "eor", .indy),
  (0x52, "eor", .ind),
  (0x53, "eor", .sry),
  (0x54, "mvn", .mv),
  (0x55, "eor", .dpx),
  (0x56, "lsr", .dpx),
  (0x57, "eor", .indly),
  (0x58, "cli", .imp),
  (0x59, "eor", .absy),
  (0x5A, "phy", .imp),
  (0x5B, "tcd", .imp),
  (0x5C, "jml", .long),
  (0x5D, "eor", .absx),
  (0x5E, "lsr", .absx),
  (0x5F, "eor", .longx),
  (0x60, "rts", .imp),
  (0x61, "adc", .indx),
  (0x62, "per", .rell),
  (0x63, "adc", .sr),
  (0x64, "stz", .dp),
  (0x65, "adc", .dp),
  (0x66, "ror", .dp),
  (0x67, "adc", .indl),
  (0x68, "pla", .imp),
  (0x69, "adc", .imm),
  (0x6A, "ror", .acc),
  (0x6B, "rtl", .imp),
  (0x6C, "jmp", .absind),
  (0x6D, "adc", .abs),
  (0x6E, "ror", .abs),
  (0x6F, "adc", .long),
  (0x70, "bvs", .rel),
  (0x71, "adc", .indy),
  (0x72, "adc", .ind),
  (0x73, "adc", .sry),
  (0x74, "stz", .dpx),
  (0x75, "adc", .dpx),
  (0x76, "ror", .dpx),
  (0x77, "adc", .indly),
  (0x78, "sei", .imp),
  (0x79, "adc", .absy),
  (0x7A, "ply", .imp),
  (0x7B, "tdc", .imp),
  (0x7C, "jmp", .absindx),
  (0x7D, "adc", .absx),
  (0x7E, "ror", .absx),
  (0x7F, "adc", .longx),
  (0x80, "bra", .rel),
  (0x81, "sta", .indx),
  (0x82, "brl", .rell),
  (0x83, "sta", .sr),
  (0x84, "sty", .dp),
  (0x85, "sta", .dp),
  (0x86, "stx", .dp),
  (0x87, "sta", .indl),
  (0x88, "dey", .imp),
  (0x89, "bit", .imm),
  (0x8A, "txa", .imp),
  (0x8B, "phb", .imp),
  (0x8C, "sty", .abs),
  (0x8D, "sta", .abs),
  (0x8E, "stx", .abs),
  (0x8F, "sta", .long),
  (0x90, "bcc", .rel),
  (0x91, "sta", .indy),
  (0x92, "sta", .ind),
  (0x93, "sta", .sry),
  (0x94, "sty", .dpx),
  (0x95, "sta", .dpx),
  (0x96, "stx", .dpy),
  (0x97, "sta", .indly),
  (0x98, "tya", .imp),
  (0x99, "sta", .absy),
  (0x9A, "txs", .imp),
  (0x9B, "txy", .imp),
  (0x9C, "stz", .abs),
  (0x9D, "sta", .absx),
  (0x9E, "stz", .absx),
  (0x9F, "sta", .longx),
  (0xA0, "ldy", .imm),
  (0xA1, "lda", .indx),
  (0xA2, "ldx", .imm),
  (0xA3, "lda", .sr),
  (0xA4, "ldy", .dp),
  (0xA5, "lda", .dp),
  (0xA6, "ldx", .dp),
  (0xA7, "lda", .indl),
  (0xA8, "tay", .imp),
  (0xA9, "lda", .imm),
  (0xAA, "tax", .imp),
  (0xAB, "plb", .imp),
  (0xAC, "ldy", .abs),
  (0xAD, "lda", .abs),
  (0xAE, "ldx", .abs),
  (0xAF, "lda", .long),
  (0xB0, "bcs", .rel),
  (0xB1, "lda", .indy),
  (0xB2, "lda", .ind),
  (0xB3, "lda", .sry),
  (0xB4, "ldy", .dpx),
  (0xB5, "lda", .dpx),
  (0xB6, "ldx", .dpy),
  (0xB7, "lda", .indly),
  (0xB8, "clv", .imp),
  (0xB9, "lda", .absy),
  (0xBA, "tsx", .imp),
  (0xBB, "tyx", .imp),
  (0xBC, "ldy", .absx),
  (0xBD, "lda", .absx),
  (0xBE, "ldx", .absy),
  (0xBF, "lda", .longx),
  (0xC0, "cpy", .imm),
  (0xC1, "cmp", .indx),
  (0xC2, "rep", .imm),
  (0xC3, "cmp", .sr),
  (0xC4, "cpy", .dp),
  (0xC5, "cmp", .dp),
  (0xC6, "dec", .dp),
  (0xC7, "cmp", .indl),
  (0xC8, "iny", .imp),
  (0xC9, "cmp", .imm),
  (0xCA, "dex", .imp),
  (0xCB, "wai", .imp),
  (0xCC, "cpy", .abs),
  (0xCD, "cmp", .abs),
  (0xCE, "dec", .abs),
  (0xCF, "cmp", .long),
  (0xD0, "bne", .rel),
  (0xD1, "cmp", .indy),
  (0xD2, "cmp", .ind),
  (0xD3, "cmp", .sry),
  (0xD4, "pei", .ind),
  (0xD5, "cmp", .dpx),
  (0xD6, "dec", .dpx),
  (0xD7, "cmp", .indly),
  (0xD8, "cld", .imp),
  (0xD9, "cmp", .absy),
  (0xDA, "phx", .imp),
  (0xDB, "stp", .imp),
  (0xDC, "jml", .absindl),
  (0xDD, "cmp", .absx),
  (0xDE, "dec", .absx),
  (0xDF, "cmp", .longx),
  (0xE0, "cpx", .imm),
  (0xE1, "sbc", .indx),
  (0xE2, "sep", .imm),
  (0xE3, "sbc", .sr),
  (0xE4, "cpx", .dp),
  (0xE5, "sbc", .dp),
  (0xE6, "inc", .dp),
  (0xE7, "sbc", .indl),
  (0xE8, "inx", .imp),
  (0xE9, "sbc", .imm),
  (0xEA, "nop", .imp),
  (0xEB, "xba", .imp),
  (0xEC, "cpx", .abs),
  (0xED, "sbc", .abs),
  (0xEE, "inc", .abs),
  (0xEF, "sbc", .long),
  (0xF0, "beq", .rel),
  (0xF1, "sbc", .indy),
  (0xF2, "sbc", .ind),
  (0xF3, "sbc", .sry),
  (0xF4, "pea", .abs),
  (0xF5, "sbc", .dpx),
  (0xF6, "inc", .dpx),
  (0xF7, "sbc", .indly),
  (0xF8, "sed", .imp),
  (0xF9, "sbc", .absy),
  (0xFA, "plx", .imp),
  (0xFB, "xce", .imp),
  (0xFC, "jsr", .absindx),
  (0xFD, "sbc", .absx),
  (0xFE, "inc", .absx),
  (0xFF, "sbc", .longx)
]

/-- the opcode of `mnemonic` in `shape`, if the 65c816 defines it -/
def isa (mn : String) (sh : Shape) : Option Nat :=
  (matrix.find? fun r => r.2.1 == mn && r.2.2 == sh).map (·.1)

theorem matrix_bytes : matrix.map (·.1) = List.range 256 := by decide +kernel

/-- the set of the numbers as a bit mask, if no number occurs twice -/
def bitset : List Nat → Option Nat
  | [] => some 0
  | a :: l => (bitset l).bind fun s => if s.testBit a then none else some (s ||| 1 <<< a)

theorem bitset_spec : ∀ {l : List Nat} {s : Nat}, bitset l = some s → l.Nodup ∧ ∀ b, s.testBit b = true ↔ b ∈ l
  | [], s, h => by
    cases h; exact ⟨.nil, fun b => by simp only [Nat.zero_testBit, Bool.false_eq_true, List.not_mem_nil]⟩
  | a :: l, s, h => by
    obtain ⟨s', hl, h⟩ := Option.bind_eq_some_iff.mp h
    obtain ⟨hnd, hs'⟩ := bitset_spec hl
    split at h
    · cases h
    · next ha =>
      cases h
      refine ⟨List.nodup_cons.mpr ⟨fun hm => ha ((hs' a).mpr hm), hnd⟩, fun b => ?_⟩
      rw [Nat.testBit_or, Nat.one_shiftLeft, Nat.testBit_two_pow, Bool.or_eq_true, hs', List.mem_cons,
        decide_eq_true_eq]
      exact ⟨fun h => h.symm.imp_left Eq.symm, fun h => h.symm.imp_right Eq.symm⟩

/-- a number for (mnemonic, shape): five bits per letter, five for the shape -/
def keyCode (k : String × Shape) : Nat := k.1.toList.foldl (fun a c => a * 32 + c.toNat % 32) 0 * 32 + k.2.ctorIdx

/-- The kernel evaluates the whole matrix: the keys' numbers go into one bit mask, no bit twice.  Rows with equal
    keys have equal numbers, so this shows the keys distinct. -/
theorem matrix_codes : (bitset ((matrix.map (·.2)).map keyCode)).isSome = true := by decide +kernel

theorem matrix_no_dup :
    (matrix.all fun r => (matrix.filter fun r' => r'.2.1 == r.2.1 && r'.2.2 == r.2.2).length == 1) = true := by
  obtain ⟨s, hs⟩ := Option.isSome_iff_exists.mp matrix_codes
  have hk : (matrix.map (·.2)).Nodup := (bitset_spec hs).1.of_map keyCode fun _ _ h e => h (e ▸ rfl)
  refine List.all_eq_true.mpr fun r hr => beq_iff_eq.mpr ?_
  -- the key of `r` occurs once among the keys; `==` on pairs unfolds to the test of the statement
  have := hk.count (a := r.2)
  rw [if_pos (List.mem_map_of_mem hr), List.count_eq_countP, List.countP_map, List.countP_eq_length_filter] at this
  exact this

end A816.Spec
