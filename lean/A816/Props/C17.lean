import A816.Proofs.ScanPos
import A816.Model.Nodes
import A816.Model.OpsScan
/-!
# C17 — Errors point at the statement that caused them

* **`scan_positions`** (whole scanner, `Proofs/ScanPos.lean`): for every source text, every token the scanner
  emits (other than comments, which may span lines and carry no errors) has the true zero-based (line, column)
  of an index of the input, and every `ScannerException` it raises is located at a true position — the
  bookkeeping invariant, "the pending token text holds no newline" and the token list are carried through every
  primitive and every state function.  `generated_mnemonics_ok` discharges its only hypothesis (no mnemonic
  contains a newline) for the regenerated tables.  (After repo fix d57caa4: an unterminated `/*` comment used to be
  reported at the last line of the file.)
* `next_inv`: the scanner's line bookkeeping is an invariant of `next()`: `current_line` is the number
  of newlines before `pos`, `line_offset` the index just after the last of them.
* `position_is_truePos`: the position a token is emitted with — and the position a `ScannerException` is
  raised with (`Scan.err` uses the same pair) — is the true (line, column) of `start`, whenever no newline
  lies between `start` and `pos`.  It depends only on the input before `start`
  (`truePos_prefix`): what precedes the statement (comments, blank lines, blocks …) cannot shift it
  other than by its own newlines.
* `node_error_line`: a `NodeError` raised for an undefined symbol carries the file and line of the
  statement's first token (`file_info`), in the label pass and at emission alike.

The definitions (`countNl`, `afterLastNl`, `truePos`, `Inv`, `NoNl`) live in `Proofs/ScanPos.lean`
(namespace `ScanP`); the basic lemmas are restated here under their names.
-/
namespace A816.C17
open A816 Scan ScanP

theorem afterLastNl_le (a : Array Char) (n : Nat) : afterLastNl a n ≤ n :=
  ScanP.afterLastNl_le a n

theorem countNl_succ (a : Array Char) (n : Nat) (c : Char) (h : a[n]? = some c) :
    countNl a (n + 1) = countNl a n + (if c = '\n' then 1 else 0) := by
  simp only [ScanP.countNl_step, h, Option.some.injEq]

/-- **line bookkeeping is an invariant of `next()`** -/
theorem next_inv (s : Scan) (h : Inv s) : Inv (s.next).1 :=
  ScanP.next_inv s h

/-- the invariant holds initially -/
theorem init_inv (input : Array Char) (file : Nat) : Inv { input := input, file := file } :=
  ScanP.init_inv input file

theorem countNl_noNl (a : Array Char) (i : Nat) : ∀ (d : Nat), NoNl a i (i + d) → i + d ≤ a.size →
    countNl a (i + d) = countNl a i ∧ afterLastNl a (i + d) = afterLastNl a i :=
  fun d hn _ => ScanP.noNl_same a i d hn

/-- **positions are true positions**: with the invariant at `pos`, and no newline between `start` and
    `pos`, the pair (`current_line`, `start − line_offset`) that `emit` and every `ScannerException` use is the
    true (line, column) of `start`. -/
theorem position_is_truePos (s : Scan) (h : Inv s) (hsp : s.start ≤ s.pos) (hps : s.pos ≤ s.input.size)
    (hn : NoNl s.input s.start s.pos) :
    ((s.curLine, (s.start : Int) - (s.lineOffset : Int)) : Nat × Int) = truePos s.input s.start :=
  ScanP.position_is_truePos s h hsp hps hn

/-- the token `emit` appends carries exactly that pair, and so does the error built by `Scan.err` -/
theorem emit_position (s : Scan) (ty : TokTy) :
    ((s.emit ty).toks.back?).map (fun t => (t.line, t.col)) = some ((s.curLine : Int), (s.start : Int) - (s.lineOffset : Int)) :=
  ScanP.emit_position s ty

theorem err_position (s : Scan) (msg : String) :
    s.err msg = .scan msg (s.curLine : Int) ((s.start : Int) - (s.lineOffset : Int)) :=
  ScanP.err_position s msg

/-- the true position of an index depends only on the text before it -/
theorem truePos_prefix (a b : Array Char) (i : Nat) (h : ∀ k, k < i → a[k]? = b[k]?) (ha : i ≤ a.size) (hb : i ≤ b.size) :
    truePos a i = truePos b i :=
  ScanP.truePos_prefix a b i h ha hb

/-- the regenerated mnemonic table contains no newline character (the hypothesis of `scan_positions`) -/
theorem generated_mnemonics_ok : ScanP.CfgOK Ops.genScanCfg := by
  have h : (Ops.genScanCfg.mnemonics.all fun m => !m.toList.contains '\n') = true := by decide +kernel
  intro m hm c hc hx
  have := List.all_eq_true.mp h m hm
  rw [Bool.not_eq_true', ← hx, List.contains_eq_mem, decide_eq_false_iff_not] at this
  exact this hc

/-- **C17 (scanner)**: for the regenerated tables and every source text — every token of a successful scan (comments
    excepted) and every lexical error carries the true zero-based (line, column) of an index of the text. -/
theorem scan_positions (file : Nat) (input : List Char) :
    ((scan Ops.genScanCfg .initial file input).error = none →
      ∀ t ∈ (scan Ops.genScanCfg .initial file input).toks.toList, ScanP.TokOK input.toArray t) ∧
    (∀ msg l c, (scan Ops.genScanCfg .initial file input).error = some (.scan msg l c) →
      ∃ i, l = ((truePos input.toArray i).1 : Int) ∧ c = (truePos input.toArray i).2) :=
  ScanP.scan_positions Ops.genScanCfg generated_mnemonics_ok file input

/-- … and the position reported for an error does not depend on what precedes it other than through the text itself:
    `truePos` of an index is a function of the text before it (`truePos_prefix`). -/
theorem scan_error_position (file : Nat) (input : List Char) (msg : String) (l c : Int)
    (h : (scan Ops.genScanCfg .initial file input).error = some (.scan msg l c)) :
    ∃ i, l = ((truePos input.toArray i).1 : Int) ∧ c = (truePos input.toArray i).2 :=
  (scan_positions file input).2 msg l c h

/-- **NodeError carries the statement's position**: an undefined symbol in an operand or a data
    directive is reported at the file and line of the statement's `file_info` token -/
theorem node_error_line (env : Env) (r : Resolver) (e : PExpr) (info : Tok) (x : String) (hp : info.hasPos = true)
    (h : evalP env r e = .error (.symbolNotDefined x)) :
    getValue env r e info = .error (.nodeAt "undefined" info.file info.line) := by
  simp only [getValue, h, nodeErr, hp]
  rfl

/-- … for data directives at emission -/
theorem data_error_line (env : Env) (w : Nat) (e : PExpr) (info : Tok) (r : Resolver) (x : String) (hp : info.hasPos = true)
    (h : evalP env r e = .error (.symbolNotDefined x)) :
    emitNode env (.data w e info) r = .error (.nodeAt "undefined" info.file info.line) := by
  simp only [emitNode, node_error_line env r e info x hp h]

/-! non-vacuity: position of the `q` in `nop⏎lda.q` is line 1, column 4 -/
example : truePos "nop\nlda.q".toList.toArray 8 = (1, 4) := by decide +kernel

end A816.C17
