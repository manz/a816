import A816.Proofs.ExprMain
import A816.Proofs.ExprClassify
import A816.Gen.Tables
import A816.Proofs.ScanLocal
/-!
# C06 — Expressions evaluate to their conventional integer value

`eval_expression` (shunting-yard into a queue, then queue evaluation, with the operator table
regenerated from `/repo`) returns, for the token list of **every** well-formed tree of any depth,
the value the conventional reading of that tree has (`Spec.eval`): precedence, left-to-right
association, parentheses, prefix operators, unbounded integers, `~` within 8/16/32 bits, literals
in the three bases and either letter case.
-/
namespace A816.C06
open A816 Spec

/-- the regenerated `OPERATOR_PRECEDENCE` as a lookup function -/
def genPrec : PrecTable := fun s => alookup s Gen.operatorPrecedence

/-- The regenerated table ranks the seven binary operators in the conventional order, above the
    rank (2) of a prefix operator.  Kernel-checked against whatever `/repo` defines now. -/
def genPrecOK : PrecOK genPrec where
  P := fun o => (genPrec o.sym).getD 0
  hP := by intro o; cases o <;> decide +kernel
  gt2 := by intro o; cases o <;> decide +kernel
  mono := by intro o o'; cases o <;> cases o' <;> decide +kernel

/-- **C06 (value)**: for every well-formed expression tree whose value is defined, evaluating its
    printed token list with the code's algorithm and table yields exactly that value. -/
theorem C06_value (env : String → Option Int) (e : Expr) (wf : e.WF) (v : Int)
    (hv : Spec.eval env e = some v) :
    evalTokens genPrec (lookOf env) (printNodes e) = .ok v :=
  evalTokens_print genPrecOK env e wf v hv

/-- The two-phase algorithm agrees with the fused evaluation for *any* token list (not only printed trees). -/
theorem C06_fuse (look : String → Look) (ts : List ENode) (vs : List Int) (stack : List ENode) (v : Int)
    (rest : List Int) (h : frun look genPrec ([], []) ts = .ok (vs, stack))
    (hflush : rpnRun look vs stack = .ok (v :: rest)) : evalTokens genPrec look ts = .ok v :=
  fuse look genPrec ts vs stack v rest h hflush

/-- Literals: decimal, `0x` hexadecimal in either letter case, `0b` binary read back to their value. -/
theorem C06_literal (l : Literal) (wf : l.WF) : evalNumber (String.ofList l.render) = some (l.value : Int) :=
  evalNumber_render l wf

/-- `~v` is the complement within the smallest of 8/16/32 bits that holds `v` (also for negative `v`). -/
theorem C06_invert (v : Int) : pyInvert v = Spec.invert v := pyInvert_eq v

/-- An undefined name makes the evaluation fail with `SymbolNotDefined` of that name — it is never
    given a value (the single-identifier case; `.if` relies on it). -/
theorem C06_undefined_name (env : String → Option Int) (x : String) (h : env x = none) :
    evalTokens genPrec (lookOf env) [.term .identifier x] = .error (.symbolNotDefined x) := by
  simp [evalTokens, shuntingYard, syRun, syStep, evalRPN, rpnRun, applyNode, lookOf, h]

/-- **C06 (classification)**: wherever the token stream continues with the printout of an expression tree and
    then anything that is not an operator, `parse_expression` returns exactly the node list of that tree —
    `-`/`~` in operand position as prefix operators, all others binary — and consumes exactly the printout.
    The parser state before it (hence the context: operand, directive, definition, macro argument, condition,
    loop bound) plays no part. -/
theorem C06_classify (cfg : ParseCfg) (e : Expr) (fuel : Nat) (st : PState)
    (hm : Classify.Matches st st.pos (printNodes e)) (hfuel : (printNodes e).length < fuel)
    (hf : (st.toks.getD (st.pos + (printNodes e).length) eofTok).ty ≠ .OPERATOR) :
    parseExpr cfg fuel st =
      .ok (⟨printNodes e, st.toks.getD st.pos eofTok⟩, Classify.adv st (printNodes e).length) :=
  Classify.parseExpr_print cfg e fuel st hm hfuel hf

/-- **C06 (tokens to value)**: parsing the printout of a well-formed tree and evaluating what the parser
    returned yields the tree's conventional value, in every parser state. -/
theorem C06_parse_value (cfg : ParseCfg) (env : String → Option Int) (e : Expr) (wf : e.WF) (v : Int)
    (hv : Spec.eval env e = some v) (fuel : Nat) (st : PState)
    (hm : Classify.Matches st st.pos (printNodes e)) (hfuel : (printNodes e).length < fuel)
    (hf : (st.toks.getD (st.pos + (printNodes e).length) eofTok).ty ≠ .OPERATOR) :
    ∃ pe st', parseExpr cfg fuel st = .ok (pe, st') ∧ st'.pos = st.pos + (printNodes e).length ∧
      evalTokens genPrec (lookOf env) pe.nodes = .ok v :=
  ⟨_, _, C06_classify cfg e fuel st hm hfuel hf, rfl, C06_value env e wf v hv⟩

/-! ## non-vacuity: concrete well-formed trees (checked by kernel evaluation through the real table) -/

private def d (n : Nat) : Expr := .num ⟨.dec, [(n, false)]⟩
private def env0 : String → Option Int := fun x => if x == "a" then some 5 else none

-- 2*3+4<<1&7 = ((2*3+4)<<1)&7 = 20&7 = 4
example : (evalTokens genPrec (lookOf env0)
    (printNodes (.bin .band (.bin .shl (.bin .add (.bin .mul (d 2) (d 3)) (d 4)) (d 1)) (d 7)))).toOption = some 4 := by
  decide +kernel
example : (Expr.bin .band (.bin .shl (.bin .add (.bin .mul (d 2) (d 3)) (d 4)) (d 1)) (d 7)).WF := by
  simp [Expr.WF, Expr.level, BOp.level, d, Literal.WF, Base.radix]
-- 5-3-1 = 1 (left to right), -2*3 = -6, ~0xFFFF = 0, 1 + ~-2 = 2, a*(1+2) = 15
example : (evalTokens genPrec (lookOf env0) (printNodes (.bin .sub (.bin .sub (d 5) (d 3)) (d 1)))).toOption = some 1 := by
  decide +kernel
example : (evalTokens genPrec (lookOf env0) (printNodes (.bin .mul (.un .neg (d 2)) (d 3)))).toOption = some (-6) := by
  decide +kernel
example : (evalTokens genPrec (lookOf env0)
    (printNodes (.un .inv (.num ⟨.hex, [(15, true), (15, false), (15, true), (15, false)]⟩)))).toOption = some 0 := by
  decide +kernel
example : (evalTokens genPrec (lookOf env0) (printNodes (.bin .add (d 1) (.un .inv (.un .neg (d 2)))))).toOption = some 2 := by
  decide +kernel
example : (evalTokens genPrec (lookOf env0)
    (printNodes (.bin .mul (.var "a") (.paren (.bin .add (d 1) (d 2)))))).toOption = some 15 := by
  decide +kernel

-- the hypotheses of `C06_classify` are met by a concrete token stream: `- 2 * ( a + 3 ) ,`
private def tk (ty : TokTy) (v : String) : Tok := { eofTok with ty := ty, val := v }
private def st0 : PState :=
  { (default : PState) with
    toks := #[tk .OPERATOR "-", tk .NUMBER "2", tk .OPERATOR "*", tk .LPAREN "(", tk .IDENTIFIER "a", tk .OPERATOR "+",
             tk .NUMBER "3", tk .RPAREN ")", tk .COMMA ","], pos := 0 }
private def e0 : Expr := .un .neg (.bin .mul (d 2) (.paren (.bin .add (.var "a") (d 3))))
example : Classify.Matches st0 st0.pos (printNodes e0) := by
  intro i hi
  have hi' : i < 8 := hi
  match i, hi' with
  | 0, _ | 1, _ | 2, _ | 3, _ | 4, _ | 5, _ | 6, _ | 7, _ => decide +kernel +revert
example : (st0.toks.getD (st0.pos + (printNodes e0).length) eofTok).ty ≠ .OPERATOR := by decide +kernel

/-- boundary values of `~` (tests of `pyInvert`, the operand widths 8 / 16 / 32 bits chosen by `bit_length`; negative
    operands are complemented in the width of their magnitude) -/
example : pyInvert 0 = some 255 ∧ pyInvert 255 = some 0 ∧ pyInvert 256 = some 65279 ∧ pyInvert 65535 = some 0 ∧
    pyInvert 65536 = some 4294901759 ∧ pyInvert (-1) = some 0 ∧ pyInvert (-256) = some 255 ∧ pyInvert (-512) = some 511 ∧
    pyInvert (-300) = some 299 ∧ pyInvert 4294967296 = none := by decide +kernel

/-! ## spacing -/
open ScanS in
/-- **blanks between the tokens of an expression do not change what is scanned** (C06 "spacing does not change the result",
    at the level of the expression scanner `lex_expression`, which `eval_expression_str` and every operand use): from two
    between-token points (`start = pos`) whose remaining texts are equal once their leading blanks are dropped, the rest of
    `lex_expression` emits tokens of the same types and texts and ends alike.  With `C06_value` (the value is a function
    of the token types and texts) equal remaining tokens give equal values. -/
theorem spacing_between_tokens (s1 s2 : Scan) (b1 : s1.start = s1.pos) (b2 : s2.start = s2.pos)
    (l1 : s1.pos ≤ s1.input.size) (l2 : s2.pos ≤ s2.input.size)
    (hrest : (s1.input.toList.drop s1.pos).dropWhile (fun c => [' '].contains c) =
      (s2.input.toList.drop s2.pos).dropWhile (fun c => [' '].contains c)) :
    ∃ A B, RelR A B s1.toks.size s2.toks.size (lexExpression s1) (lexExpression s2) := by
  obtain ⟨t1, t2, r1, r2, hsim⟩ := sim_after_ignoreRun [' '] (by decide) s1 s2 l1 l2 hrest
  refine ⟨t1.pos, t2.pos, ?_⟩
  unfold lexExpression
  rw [lexExpressionLoop_skip_spaces s1 t1 b1 r1 _ (t1.input.size - t1.pos + 1) (by omega) (by omega),
      lexExpressionLoop_skip_spaces s2 t2 b2 r2 _ (t2.input.size - t2.pos + 1) (by omega) (by omega), hsim.remaining]
  exact sim_lexExpressionLoop hsim

/-- non-vacuity, and the conclusion observed (a test): "   1+2" and "1+2" from their first character -/
example : (("   1+2".toList.drop 0).dropWhile fun c => [' '].contains c) = (("1+2".toList.drop 0).dropWhile fun c => [' '].contains c) := by
  decide +kernel
example : (scan ⟨[], [], []⟩ .expression 0 "   1 +  2".toList).toks.toList.map ScanS.key
    = (scan ⟨[], [], []⟩ .expression 0 "1+2".toList).toks.toList.map ScanS.key := by decide +kernel


end A816.C06
