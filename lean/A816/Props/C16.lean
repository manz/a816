import A816.Props.C06
import A816.Props.C10
import A816.Model.Program
import A816.Proofs.ScanLocal
import A816.Proofs.ScanExt
import A816.Proofs.ScanComment
import A816.Proofs.ScanNaked
/-!
# C16 — Output does not depend on how the source text is laid out

Proved pieces (each for all inputs); the composition over whole source texts is exercised by the metamorphic stream
S4-relayout.

* Parser and code generation: a COMMENT token at a statement boundary yields no statement (`comment_skipped`, also inside
  blocks); the generated node does not depend on the letter case of the mnemonic, of the index register or of hexadecimal
  digits (`mnemonic_case`, `index_case`, `hex_digit_case`); the statements of an `.include`d file are generated in the
  current scope (`include_is_inline`).
* The scanner is local (`scan_suffix_local`, `blanks_between_tokens`): when the scans of two texts each pass through a
  between-token point (head of an iteration of `Scanner.scan`, `start = pos`) and the texts after those points are equal —
  up to leading blanks, tabs and newlines — the tokens emitted after the points have the same types and texts and the scans
  end the same way (same error message or none).  What precedes the point — other statements, comments, how they were laid
  out, an include boundary — cannot influence what follows it.
* `scan_split`: at any between-token point the result is the tokens emitted so far followed by the scan of the remaining
  text.  `ScansTo cfg f c K`: in front of any text the chunk `c` adds exactly the token types and texts `K`; chunks compose,
  and blanks, newline-terminated lines that scan without error (`scan_append`) and comments of either kind are chunks.  The
  insertion results (`leading_blanks` … `leading_fillers`) are instances.
-/
namespace A816.C16
open A816 C10

/-- lower-casing is idempotent -/
theorem asciiLower_idem (s : String) : asciiLower (asciiLower s) = asciiLower s := by
  unfold asciiLower
  rw [String.toList_ofList, List.map_map]
  refine congrArg String.ofList (List.map_congr_left fun c _ => ?_)
  by_cases h : 'A' ≤ c ∧ c ≤ 'Z'
  · -- a lower-cased capital is not a capital
    have h1 : 65 ≤ c.toNat := h.1
    have h2 : c.toNat ≤ 90 := h.2
    have ht : (Char.ofNat (c.toNat + 32)).toNat = c.toNat + 32 := by
      rw [Char.ofNat, dif_pos (.inl (by omega))]; rfl
    have : ¬ ('A' ≤ Char.ofNat (c.toNat + 32) ∧ Char.ofNat (c.toNat + 32) ≤ 'Z') := fun ⟨_, hb⟩ => by
      have : (Char.ofNat (c.toNat + 32)).toNat ≤ 90 := hb
      omega
    simp only [Function.comp, if_pos h, if_neg this]
  · simp only [Function.comp, if_neg h]

/-- **mnemonic case**: code generation lower-cases the mnemonic, so `LDA`, `Lda` and `lda` generate the same node -/
theorem mnemonic_case (env : Env) (fuel : Nat) (mode : AddrMode) (mn : String) (size : Option Nat) (operand : Option PExpr)
    (index : Option Idx) (info : Tok) (st : GenState) :
    runG (gen env (fuel + 1) (.opcode mode mn size operand index info)) st
      = runG (gen env (fuel + 1) (.opcode mode (asciiLower mn) size operand index info)) st := by
  simp only [runG, gen, asciiLower_idem]

/-- **index register case**: `x`/`X`, `y`/`Y`, `s`/`S` are read alike -/
theorem index_case (t : Tok) : indexOfTok { t with val := asciiLower t.val } = indexOfTok t := by
  simp only [indexOfTok, asciiLower_idem]

/-- **hex digit case**: the value of a literal does not depend on the letter case of its digits -/
theorem hex_digit_case (base : Spec.Base) (ds : List (Nat × Bool)) (flags : List Bool)
    (wf : (⟨base, ds⟩ : Spec.Literal).WF) (hl : flags.length = ds.length) :
    evalNumber (String.ofList (⟨base, (ds.zip flags).map fun (d, f) => (d.1, f)⟩ : Spec.Literal).render)
      = evalNumber (String.ofList (⟨base, ds⟩ : Spec.Literal).render) := by
  have hmap : ((ds.zip flags).map fun (d, f) => (d.1, f)).map Prod.fst = ds.map Prod.fst := by
    rw [List.map_map]
    exact (List.map_map (f := Prod.fst) (g := Prod.fst)).symm.trans (congrArg _ (List.map_fst_zip (by omega)))
  have wf' : (⟨base, (ds.zip flags).map fun (d, f) => (d.1, f)⟩ : Spec.Literal).WF :=
    ⟨fun h => wf.1 (List.map_eq_nil_iff.mp (hmap.symm.trans (congrArg (List.map Prod.fst) h))), fun d hd => by
      obtain ⟨⟨d0, f0⟩, hm, rfl⟩ := List.mem_map.mp hd
      exact wf.2 d0 (List.of_mem_zip hm).1⟩
  rw [C06.C06_literal _ wf', C06.C06_literal _ wf]
  -- the value folds over the digit values only
  have hval : ∀ l : List (Nat × Bool), l.foldl (fun a d => a * base.radix + d.1) 0
      = (l.map Prod.fst).foldl (fun a n => a * base.radix + n) 0 := fun l => List.foldl_map.symm
  simp only [Spec.Literal.value]
  rw [hval, hval, hmap]

/-- **`.include` is inline**: the included file's statements are generated in the current scope -/
theorem include_is_inline (env : Env) (fuel : Nat) (body : List Ast) (info : Tok) (st : GenState) :
    runG (gen env (fuel + 1) (.block body info)) st = runG (genList env fuel body) st := by
  simp only [runG, gen, genList]

/-- `parse_decl` on a COMMENT token consumes it and yields no statement -/
theorem parseDecl_comment (cfg : ParseCfg) (fuel : Nat) (st : PState) (hc : (st.toks.getD st.pos eofTok).ty = .COMMENT) :
    parseDecl cfg (fuel + 1) st = .ok (none, Classify.adv st 1) := by
  rw [parseDecl, Classify.run_next st st.pos, hc]
  rfl

/-- **comments are transparent to the parser**: at a statement boundary a COMMENT token yields no statement
    and the statement loop goes on with the next token -/
theorem comment_skipped (cfg : ParseCfg) (fuel : Nat) (st : PState) (t : Tok) (ht : st.toks[st.pos]? = some t)
    (hc : t.ty = .COMMENT) :
    (parseProgram cfg (fuel + 2)).run st = (parseProgram cfg (fuel + 1)).run { st with pos := st.pos + 1 } := by
  have hcur : st.toks.getD st.pos eofTok = t := by
    rw [Array.getD_eq_getD_getElem?, ht]; rfl
  show parseProgram cfg (fuel + 1 + 1) st = _
  rw [parseProgram, Classify.run_cur st st.pos, hcur, hc, if_neg (by decide),
    Classify.bind_ok (parseDecl_comment cfg fuel st (hcur ▸ hc))]
  exact congrFun (bind_pure _) _

/-- the same inside a `{ … }` block (scope, macro body, `.if` / `.for` body): the block loop consumes a COMMENT token
    and yields no statement for it -/
theorem comment_skipped_in_block (cfg : ParseCfg) (fuel : Nat) (st : PState) (t : Tok) (ht : st.toks[st.pos]? = some t)
    (hc : t.ty = .COMMENT) :
    (parseBlock cfg (fuel + 2)).run st = (parseBlock cfg (fuel + 1)).run { st with pos := st.pos + 1 } := by
  have hcur : st.toks.getD st.pos eofTok = t := by
    rw [Array.getD_eq_getD_getElem?, ht]; rfl
  show parseBlock cfg (fuel + 1 + 1) st = _
  rw [parseBlock, Classify.run_cur st st.pos, hcur, hc, if_neg (by decide),
    Classify.bind_ok (parseDecl_comment cfg fuel st (hcur ▸ hc))]
  exact congrFun (bind_pure _) _

/-- a loop `P fuel st` that steps over one COMMENT token per unit of fuel steps over a run of them -/
theorem skip_run {α : Type} (P : Nat → PState → α)
    (step : ∀ (fuel : Nat) (st : PState) (t : Tok), st.toks[st.pos]? = some t → t.ty = .COMMENT →
      P (fuel + 2) st = P (fuel + 1) { st with pos := st.pos + 1 }) (fuel : Nat) : ∀ (n : Nat) (st : PState),
    (∀ i, i < n → ∃ t, st.toks[st.pos + i]? = some t ∧ t.ty = .COMMENT) →
    P (fuel + 1 + n) st = P (fuel + 1) { st with pos := st.pos + n }
  | 0, _, _ => rfl
  | n + 1, st, h => by
    obtain ⟨t, ht, hc⟩ := h 0 (Nat.succ_pos n)
    rw [show fuel + 1 + (n + 1) = fuel + n + 2 by omega, step (fuel + n) st t ht hc, show fuel + n + 1 = fuel + 1 + n by omega,
      skip_run P step fuel n { st with pos := st.pos + 1 } fun i hi => by
        obtain ⟨t', ht', hc'⟩ := h (i + 1) (by omega)
        exact ⟨t', by rw [← ht']; show st.toks[st.pos + 1 + i]? = _; rw [Nat.add_assoc, Nat.add_comm 1 i], hc'⟩]
    show P (fuel + 1) { st with pos := st.pos + 1 + n } = _
    rw [Nat.add_assoc, Nat.add_comm 1 n]

/-- **a run of COMMENT tokens at a statement boundary is skipped** (the tokens of any number of comment lines / block
    comments between two statements): the statement loop continues behind them as if they were not there -/
theorem comments_skipped (cfg : ParseCfg) (fuel : Nat) : ∀ (n : Nat) (st : PState),
    (∀ i, i < n → ∃ t, st.toks[st.pos + i]? = some t ∧ t.ty = .COMMENT) →
    (parseProgram cfg (fuel + 1 + n)).run st = (parseProgram cfg (fuel + 1)).run { st with pos := st.pos + n } :=
  skip_run (fun k st => (parseProgram cfg k).run st) (comment_skipped cfg) fuel

/-- the same inside a `{ … }` block -/
theorem comments_skipped_in_block (cfg : ParseCfg) (fuel : Nat) : ∀ (n : Nat) (st : PState),
    (∀ i, i < n → ∃ t, st.toks[st.pos + i]? = some t ∧ t.ty = .COMMENT) →
    (parseBlock cfg (fuel + 1 + n)).run st = (parseBlock cfg (fuel + 1)).run { st with pos := st.pos + n } :=
  skip_run (fun k st => (parseBlock cfg k).run st) (comment_skipped_in_block cfg) fuel

/-- `ignore_run(" ")`: blanks only move `pos`/`start`; no token, no line bookkeeping -/
theorem spaces_ignored (s s' : Scan) (h : s.ignoreRun [' '] = .ok s') :
    s'.input = s.input ∧ s.pos ≤ s'.pos ∧ s'.start = s'.pos := by
  have hl := (ScanT.safe_ignoreRun s _ ScanB.he_sp).of_ok h
  exact ⟨hl.input, hl.pos, (ScanS.ignoreRun_idem h).2⟩

open ScanS in
/-- **the tokens after a between-token point depend only on the text after it** -/
theorem scan_suffix_local (cfg : ScanCfg) (st : ScanState) (f1 f2 : Nat) (i1 i2 : List Char) (s1 s2 : Scan)
    (h1 : Reach cfg st (initState f1 i1) s1) (h2 : Reach cfg st (initState f2 i2) s2)
    (b1 : s1.start = s1.pos) (b2 : s2.start = s2.pos) (l1 : s1.pos ≤ i1.length) (l2 : s2.pos ≤ i2.length)
    (hrest : i1.drop s1.pos = i2.drop s2.pos) :
    ResRel s1.toks.size s2.toks.size (scan cfg st f1 i1) (scan cfg st f2 i2) := by
  have e1 : s1.input = i1.toArray := h1.input
  have e2 : s2.input = i2.toArray := h2.input
  have hsim : Sim s1.pos s2.pos s1.toks.size s2.toks.size s1 s2 :=
    Sim.ofBoundary s1 s2 b1 b2 (by rw [e1]; exact l1) (by rw [e2]; exact l2) (by rw [e1, e2]; exact hrest)
  rw [scan_of_reach cfg st f1 i1 s1 h1, scan_of_reach cfg st f2 i2 s2 h2, hsim.remaining]
  exact finish_rel (sim_scanLoop cfg st _ _ _ hsim)

/-- a blank, a tab or a newline -/
def isBlank (c : Char) : Bool := [' ', '\t', '\n'].contains c

open ScanS in
/-- **blank lines, indentation and trailing spaces between tokens change nothing**: two between-token points of the
    initial scanner state whose remaining texts are equal once their leading blanks, tabs and newlines are dropped are
    followed by the same tokens and the same outcome -/
theorem blanks_between_tokens (cfg : ScanCfg) (f1 f2 : Nat) (i1 i2 : List Char) (s1 s2 : Scan)
    (h1 : Reach cfg .initial (initState f1 i1) s1) (h2 : Reach cfg .initial (initState f2 i2) s2)
    (b1 : s1.start = s1.pos) (b2 : s2.start = s2.pos) (l1 : s1.pos ≤ i1.length) (l2 : s2.pos ≤ i2.length)
    (hrest : (i1.drop s1.pos).dropWhile isBlank = (i2.drop s2.pos).dropWhile isBlank) :
    ResRel s1.toks.size s2.toks.size (scan cfg .initial f1 i1) (scan cfg .initial f2 i2) := by
  have e1 : s1.input = i1.toArray := h1.input
  have e2 : s2.input = i2.toArray := h2.input
  obtain ⟨t1, t2, r1, r2, hsim⟩ := sim_after_ignoreRun [' ', '\t', '\n'] (by decide) s1 s2
    (by rw [e1]; exact l1) (by rw [e2]; exact l2) (by rw [e1, e2]; exact hrest)
  rw [scan_of_reach cfg .initial f1 i1 s1 h1, scan_of_reach cfg .initial f2 i2 s2 h2,
      scanLoop_skip_blanks cfg s1 t1 b1 r1 _ (t1.input.size - t1.pos + 1) (by omega) (by omega),
      scanLoop_skip_blanks cfg s2 t2 b2 r2 _ (t2.input.size - t2.pos + 1) (by omega) (by omega), hsim.remaining]
  exact finish_rel (sim_scanLoop cfg .initial _ _ _ hsim)

open ScanS ScanX ScanK in
/-- **the tokens of a scan are those emitted up to a between-token point followed by the scan of the rest**: at any
    between-token point `s` of the scan of `i`, with `r` left up to leading blanks, tabs and newlines -/
theorem scan_split (cfg : ScanCfg) (f f2 : Nat) (i r : List Char) (s : Scan)
    (hs : Reach cfg .initial (initState f i) s) (hst : s.start = s.pos) (hpos : s.pos ≤ i.length)
    (hrest : (i.drop s.pos).dropWhile isBlank = r.dropWhile isBlank) :
    s.toks.toList <+: (scan cfg .initial f i).toks.toList ∧
    (scan cfg .initial f i).toks.toList.map key = s.toks.toList.map key ++ (scan cfg .initial f2 r).toks.toList.map key ∧
    (scan cfg .initial f i).error.map errKey = (scan cfg .initial f2 r).error.map errKey := by
  have hrel := blanks_between_tokens cfg f f2 i r s (initState f2 r) hs (Reach.refl _) hst rfl hpos (Nat.zero_le _) hrest
  have hpre : s.toks.toList <+: (scan cfg .initial f i).toks.toList := by
    rw [scan_of_reach cfg .initial f i s hs]
    exact finish_prefix s _ (tp_scanLoop cfg .initial s _ s (Ext.refl s))
  refine ⟨hpre, ?_, hrel.2⟩
  obtain ⟨rest, hrest2⟩ := hpre
  have hdrop : rest.map key = (scan cfg .initial f2 r).toks.toList.map key := by
    have := hrel.1.eq
    rwa [← hrest2, ← Array.length_toList, List.drop_left, show (initState f2 r).toks.size = 0 from rfl, List.drop_zero] at this
  rw [← hrest2, List.map_append, hdrop]

open ScanS ScanX ScanK in
/-- `scan_split` behind one iteration of the outer loop that consumed `c` and emitted just `t`, counted from the tokens before it -/
theorem scan_step_from {cfg : ScanCfg} {f : Nat} (f2 : Nat) {i c r : List Char} {s s' : Scan} {t : Tok}
    (hs : Reach cfg .initial (initState f i) s) (hd : i.drop s.pos = c ++ r) (hc : c ≠ []) (h : lexInitial cfg s = .ok s')
    (hpos : s'.pos = s.pos + c.length) (hst : s'.start = s'.pos) (htoks : s'.toks = s.toks.push t) :
    ((scan cfg .initial f i).toks.toList.drop s.toks.size).map key = key t :: (scan cfg .initial f2 r).toks.toList.map key ∧
    (scan cfg .initial f i).error.map errKey = (scan cfg .initial f2 r).error.map errKey := by
  have hlen := add_le_of_drop_eq_append hd hc
  have hpos0 : 0 < c.length := List.length_pos_iff.mpr hc
  have hsz : s.pos < s.input.size := by
    rw [show s.input = i.toArray from hs.input, List.size_toArray]; omega
  obtain ⟨_, h2, h3⟩ := scan_split cfg f f2 i r s' (hs.trans (Reach.one h (by omega) hsz)) hst (hpos ▸ hlen)
    (by rw [hpos, drop_add_of_eq_append hd])
  refine ⟨?_, h3⟩
  rw [List.map_drop, h2, htoks, Array.toList_push, List.map_append, List.append_assoc, ← Array.length_toList,
    ← List.length_map (f := key), List.drop_left]
  rfl

open ScanS ScanX in
/-- for a text `p` that ends with a newline and scans without error, the scan of `p ++ r` passes through a between-token
    point at which it has emitted exactly the tokens of the scan of `p` (its `EOF` apart) and has only blanks of `p` left -/
theorem append_point (cfg : ScanCfg) (hcfg : ScanP.CfgOK cfg) (f : Nat) (p r : List Char)
    (he : Ends p.toArray) (hok : (scan cfg .initial f p).error = none) :
    ∃ s, Reach cfg .initial (initState f (p ++ r)) s ∧ s.toks = (scan cfg .initial f p).toks.pop ∧ s.start = s.pos ∧
      s.pos ≤ (p ++ r).length ∧ ((p ++ r).drop s.pos).dropWhile isBlank = r.dropWhile isBlank := by
  rw [scan_eq_finish] at hok
  cases hloop : scanLoop cfg .initial (p.length + 1) (initState f p) with
  | error e => rw [hloop, (finish_error e.1 e.2).2] at hok; cases hok
  | ok sp =>
    obtain ⟨s, hr, h1, h2, h3, h4, h5⟩ := prefix_reach cfg hcfg he r _ (initState f p) sp rfl rfl (Nat.zero_le _) hloop
    have h3' : s.pos ≤ p.length := h3
    refine ⟨ext r s, hr, ?_, h2, by show s.pos ≤ (p ++ r).length; rw [List.length_append]; omega, ?_⟩
    · show s.toks = _
      rw [scan_eq_finish, hloop, (finish_ok sp).1, h5]
      exact (Array.pop_push ..).symm
    · show ((p ++ r).drop s.pos).dropWhile isBlank = _
      rw [List.drop_append_of_le_length h3']
      exact List.dropWhile_append_of_pos (List.all_eq_true.mp h4)

open ScanS ScanX in
/-- **the scan of `p ++ r` is the scan of `p` followed by the scan of `r`**, for every text `p` that ends with a newline
    and scans without error (no string or comment left open), every following text `r`, and every scanner configuration
    whose mnemonics hold no newline: the scan of `p ++ r` passes through a between-token point at which it has emitted
    exactly the tokens of the scan of `p` (its `EOF` token apart) — positions and line numbers included — and from there
    on it emits tokens with the types and texts of the scan of `r` alone and ends as that scan ends. -/
theorem scan_append (cfg : ScanCfg) (hcfg : ScanP.CfgOK cfg) (f f2 : Nat) (p r : List Char)
    (he : Ends p.toArray) (hok : (scan cfg .initial f p).error = none) :
    ∃ s, Reach cfg .initial (initState f (p ++ r)) s ∧ s.toks = (scan cfg .initial f p).toks.pop ∧
      ResRel s.toks.size 0 (scan cfg .initial f (p ++ r)) (scan cfg .initial f2 r) := by
  obtain ⟨s, hr, hs, h2, h3, h4⟩ := append_point cfg hcfg f p r he hok
  exact ⟨s, hr, hs, blanks_between_tokens cfg f f2 (p ++ r) r s (initState f2 r) hr (Reach.refl _) h2 rfl h3 (Nat.zero_le _) h4⟩

open ScanS ScanX ScanK in
/-- `scan_append` as an equation on token lists: the tokens of the scan of `p` (its `EOF` apart) are — exactly, positions
    included — the first tokens of the scan of `p ++ r`; the types and texts of all its tokens are those of `p`'s followed
    by those of the scan of `r`; and it ends as the scan of `r` ends (no error, or the same message). -/
theorem scan_append_tokens (cfg : ScanCfg) (hcfg : ScanP.CfgOK cfg) (f f2 : Nat) (p r : List Char)
    (he : Ends p.toArray) (hok : (scan cfg .initial f p).error = none) :
    (scan cfg .initial f p).toks.pop.toList <+: (scan cfg .initial f (p ++ r)).toks.toList ∧
    (scan cfg .initial f (p ++ r)).toks.toList.map key =
      (scan cfg .initial f p).toks.pop.toList.map key ++ (scan cfg .initial f2 r).toks.toList.map key ∧
    (scan cfg .initial f (p ++ r)).error.map errKey = (scan cfg .initial f2 r).error.map errKey := by
  obtain ⟨s, hr, hs, h2, h3, h4⟩ := append_point cfg hcfg f p r he hok
  have := scan_split cfg f f2 (p ++ r) r s hr h2 h3 h4
  rwa [hs] at this

open ScanS in
/-- in front of any text, the chunk `c` adds exactly the tokens `K` (types and texts) and does not change how the scan ends -/
def ScansTo (cfg : ScanCfg) (f : Nat) (c : List Char) (K : List (TokTy × String)) : Prop :=
  ∀ r : List Char,
    (scan cfg .initial f (c ++ r)).toks.toList.map key = K ++ (scan cfg .initial f r).toks.toList.map key ∧
    (scan cfg .initial f (c ++ r)).error.map errKey = (scan cfg .initial f r).error.map errKey

theorem ScansTo.nil (cfg : ScanCfg) (f : Nat) : ScansTo cfg f [] [] := fun _ => ⟨rfl, rfl⟩

theorem ScansTo.append {cfg : ScanCfg} {f : Nat} {c d : List Char} {K L : List (TokTy × String)}
    (hc : ScansTo cfg f c K) (hd : ScansTo cfg f d L) : ScansTo cfg f (c ++ d) (K ++ L) := fun r => by
  rw [List.append_assoc, List.append_assoc, (hc (d ++ r)).1, (hc (d ++ r)).2]
  exact ⟨congrArg _ (hd r).1, (hd r).2⟩

open ScanS in
theorem scansTo_blanks (cfg : ScanCfg) (f : Nat) {c : List Char} (hc : c.all isBlank = true) : ScansTo cfg f c [] := fun r =>
  have h := scan_split cfg f f (c ++ r) r (initState f (c ++ r)) (Reach.refl _) rfl (Nat.zero_le _)
    (List.dropWhile_append_of_pos (List.all_eq_true.mp hc))
  ⟨h.2.1, h.2.2⟩

open ScanS ScanX in
theorem scansTo_lines (cfg : ScanCfg) (hcfg : ScanP.CfgOK cfg) (f : Nat) {p : List Char}
    (he : Ends p.toArray) (hok : (scan cfg .initial f p).error = none) :
    ScansTo cfg f p ((scan cfg .initial f p).toks.pop.toList.map key) := fun r =>
  (scan_append_tokens cfg hcfg f f p r he hok).2

open ScanS ScanX in
/-- leading blank lines and indentation: a text and the same text behind blanks, tabs and newlines scan alike -/
theorem leading_blanks (cfg : ScanCfg) (f : Nat) (c r : List Char) (hc : c.all isBlank = true) :
    (scan cfg .initial f (c ++ r)).toks.toList.map key = (scan cfg .initial f r).toks.toList.map key ∧
    (scan cfg .initial f (c ++ r)).error.map errKey = (scan cfg .initial f r).error.map errKey :=
  scansTo_blanks cfg f hc r

open ScanS ScanX in
/-- **blank lines between lines change nothing**: for a newline-terminated `p` that scans without error, any run `c` of
    blanks, tabs and newlines inserted after it leaves the types and texts of all tokens, and the outcome, unchanged -/
theorem blank_lines_between (cfg : ScanCfg) (hcfg : ScanP.CfgOK cfg) (f : Nat) (p c r : List Char)
    (he : Ends p.toArray) (hok : (scan cfg .initial f p).error = none) (hc : c.all isBlank = true) :
    (scan cfg .initial f (p ++ (c ++ r))).toks.toList.map key = (scan cfg .initial f (p ++ r)).toks.toList.map key ∧
    (scan cfg .initial f (p ++ (c ++ r))).error.map errKey = (scan cfg .initial f (p ++ r)).error.map errKey := by
  have hp := scansTo_lines cfg hcfg f he hok
  have h3 := scansTo_blanks cfg f hc r
  exact ⟨by rw [(hp (c ++ r)).1, (hp r).1, h3.1]; rfl, by rw [(hp (c ++ r)).2, (hp r).2, h3.2]⟩

open ScanS ScanX in
/-- **a chunk of whole lines inserted between lines adds exactly its own tokens**: `c` may be comment lines, statements,
    or the text of an included file -/
theorem insert_lines (cfg : ScanCfg) (hcfg : ScanP.CfgOK cfg) (f : Nat) (p c r : List Char)
    (hp : Ends p.toArray) (hpok : (scan cfg .initial f p).error = none)
    (hcn : Ends c.toArray) (hcok : (scan cfg .initial f c).error = none) :
    (scan cfg .initial f (p ++ (c ++ r))).toks.toList.map key =
      (scan cfg .initial f p).toks.pop.toList.map key ++ ((scan cfg .initial f c).toks.pop.toList.map key ++
        (scan cfg .initial f r).toks.toList.map key) ∧
    (scan cfg .initial f (p ++ (c ++ r))).error.map errKey = (scan cfg .initial f r).error.map errKey := by
  have h := ((scansTo_lines cfg hcfg f hp hpok).append (scansTo_lines cfg hcfg f hcn hcok)) r
  rwa [List.append_assoc, List.append_assoc] at h


open ScanS ScanX in
/-- **a text is scanned line by line** (chunk by chunk): for chunks that each end with a newline and each scan without
    error on their own, the types and texts of the tokens of their concatenation followed by any text `r` are those of
    each chunk's own scan (its `EOF` apart), in order, followed by those of `r`'s scan — and the outcome is `r`'s. -/
theorem scan_chunks (cfg : ScanCfg) (hcfg : ScanP.CfgOK cfg) (f : Nat) (r : List Char) :
    ∀ (cs : List (List Char)), (∀ c ∈ cs, Ends c.toArray ∧ (scan cfg .initial f c).error = none) →
    (scan cfg .initial f (cs.flatten ++ r)).toks.toList.map key =
      (cs.flatMap fun c => (scan cfg .initial f c).toks.pop.toList.map key) ++ (scan cfg .initial f r).toks.toList.map key ∧
    (scan cfg .initial f (cs.flatten ++ r)).error.map errKey = (scan cfg .initial f r).error.map errKey := by
  intro cs h
  suffices ScansTo cfg f cs.flatten (cs.flatMap fun c => (scan cfg .initial f c).toks.pop.toList.map key) from this r
  induction cs with
  | nil => exact .nil cfg f
  | cons c cs ih =>
    exact (scansTo_lines cfg hcfg f (h c List.mem_cons_self).1 (h c List.mem_cons_self).2).append
      (ih fun x hx => h x (List.mem_cons_of_mem _ hx))

open ScanS ScanX ScanK in
/-- **a comment of either kind is one COMMENT token, whose text is the comment, wherever it starts**: at any between-token
    point of the scan of `i` with the comment `c` and then `r` ahead -/
theorem isComment_at_point (cfg : ScanCfg) (f f2 : Nat) (i c r : List Char) (s : Scan) (hc : IsComment c)
    (hs : Reach cfg .initial (initState f i) s) (hst : s.start = s.pos) (hd : i.drop s.pos = c ++ r) :
    ((scan cfg .initial f i).toks.toList.drop s.toks.size).map key =
      (.COMMENT, String.ofList c) :: (scan cfg .initial f2 r).toks.toList.map key ∧
    (scan cfg .initial f i).error.map errKey = (scan cfg .initial f2 r).error.map errKey := by
  obtain ⟨s', t, h1, _, h3, h4, h5, h6, _⟩ := lexInitial_isComment cfg s r hc hst
    (by rw [show s.input = i.toArray from hs.input]; exact hd)
  have := scan_step_from f2 hs hd hc.ne_nil h1 h3 h4 h5
  rwa [h6] at this

open ScanS in
theorem scansTo_comment (cfg : ScanCfg) (f : Nat) {c : List Char} (hc : IsComment c) :
    ScansTo cfg f c [(.COMMENT, String.ofList c)] :=
  fun r => isComment_at_point cfg f f (c ++ r) c r (initState f (c ++ r)) hc (Reach.refl _) rfl rfl

open ScanS ScanX ScanK in
/-- **a full-line `;` comment is one COMMENT token, whatever it says** (quotes, `/*`, braces, mnemonics): for every comment
    text `cs` without a newline and every following text `r`, the scan of `; cs \n r` is one COMMENT token followed by the
    tokens (types and texts) of the scan of `r`, and it ends as the scan of `r` ends. -/
theorem comment_line (cfg : ScanCfg) (f : Nat) (cs r : List Char) (hnl : ∀ c ∈ cs, c ≠ '\n') :
    ∃ t : Tok, t.ty = .COMMENT ∧
      (scan cfg .initial f (';' :: (cs ++ '\n' :: r))).toks.toList.map key = key t :: (scan cfg .initial f r).toks.toList.map key ∧
      (scan cfg .initial f (';' :: (cs ++ '\n' :: r))).error.map errKey = (scan cfg .initial f r).error.map errKey :=
  ⟨⟨.COMMENT, _, -1, -1, 0, true⟩, rfl, by
    have := scansTo_comment cfg f (.line hnl) r
    simp only [List.cons_append, List.append_assoc, List.nil_append] at this
    exact this⟩

open ScanS ScanX ScanK in
/-- **a `/* … */` comment at a between-token point is one COMMENT token, whatever it holds** — newlines, `;`, quotes,
    `/*`, a leading `/` (the `/*/` idiom), a trailing `*` — provided only that no `*/` starts inside the body
    (`NoClose`, which is what "the body" means): the scan of `/* body */ r` is one COMMENT token followed by the scan of `r`. -/
theorem block_comment (cfg : ScanCfg) (f : Nat) (body r : List Char) (hnc : NoClose body) :
    ∃ t : Tok, t.ty = .COMMENT ∧
      (scan cfg .initial f ('/' :: '*' :: (body ++ '*' :: '/' :: r))).toks.toList.map key =
        key t :: (scan cfg .initial f r).toks.toList.map key ∧
      (scan cfg .initial f ('/' :: '*' :: (body ++ '*' :: '/' :: r))).error.map errKey =
        (scan cfg .initial f r).error.map errKey :=
  ⟨⟨.COMMENT, _, -1, -1, 0, true⟩, rfl, by
    have := scansTo_comment cfg f (.block hnc) r
    simp only [List.cons_append, List.append_assoc, List.nil_append] at this
    exact this⟩

open ScanS ScanX ScanK in
/-- **an end-of-line (or full-line) `;` comment is one COMMENT token wherever it starts**: at any between-token point of
    the scan of `i` with `; cs \n r` ahead (`cs` without newline) -/
theorem comment_at_point (cfg : ScanCfg) (f f2 : Nat) (i cs r : List Char) (s : Scan)
    (hs : Reach cfg .initial (initState f i) s) (hst : s.start = s.pos)
    (hd : i.drop s.pos = ';' :: (cs ++ '\n' :: r)) (hnl : ∀ c ∈ cs, c ≠ '\n') :
    ∃ t : Tok, t.ty = .COMMENT ∧
      ((scan cfg .initial f i).toks.toList.drop s.toks.size).map key = key t :: (scan cfg .initial f2 r).toks.toList.map key ∧
      (scan cfg .initial f i).error.map errKey = (scan cfg .initial f2 r).error.map errKey :=
  ⟨⟨.COMMENT, _, -1, -1, 0, true⟩, rfl, isComment_at_point cfg f f2 i _ r s (.line hnl) hs hst
    (by rw [hd, List.cons_append, List.append_assoc]; rfl)⟩

open ScanS ScanX ScanK in
/-- **a `/* … */` comment is one COMMENT token wherever it starts** (any between-token point of the scan of `i`) -/
theorem block_comment_at_point (cfg : ScanCfg) (f f2 : Nat) (i body r : List Char) (s : Scan)
    (hs : Reach cfg .initial (initState f i) s) (hst : s.start = s.pos)
    (hd : i.drop s.pos = '/' :: '*' :: (body ++ '*' :: '/' :: r)) (hnc : NoClose body) :
    ∃ t : Tok, t.ty = .COMMENT ∧
      ((scan cfg .initial f i).toks.toList.drop s.toks.size).map key = key t :: (scan cfg .initial f2 r).toks.toList.map key ∧
      (scan cfg .initial f i).error.map errKey = (scan cfg .initial f2 r).error.map errKey :=
  ⟨⟨.COMMENT, _, -1, -1, 0, true⟩, rfl, isComment_at_point cfg f f2 i _ r s (.block hnc) hs hst
    (by rw [hd, List.cons_append, List.cons_append, List.append_assoc]; rfl)⟩

open ScanS ScanX ScanK in
/-- **a mnemonic that stands alone is one OPCODE_NAKED token wherever it starts**: at any between-token point of the scan of
    `i` with the mnemonic `abc` ahead, then blanks / tabs `ws`, then the end of the text, a newline or a `;` comment -/
theorem naked_at_point (cfg : ScanCfg) (f f2 : Nat) (i ws more : List Char) (a b c : Char) (s : Scan)
    (hs : Reach cfg .initial (initState f i) s) (hst : s.start = s.pos) (hd : i.drop s.pos = a :: b :: c :: (ws ++ more))
    (ha : letterChars.contains a = true)
    (hmn : cfg.mnemonics.contains (asciiLower (String.ofList [a, b, c])) = true)
    (hno : cfg.noOperand.contains (asciiLower (String.ofList [a, b, c])) = true)
    (hws : ∀ c ∈ ws, c = ' ' ∨ c = '\t') (hmore : more = [] ∨ more.head? = some '\n' ∨ more.head? = some ';')
    (hsep : ws ≠ [] ∨ more.head? ≠ some ';') :
    ((scan cfg .initial f i).toks.toList.drop s.toks.size).map key =
      (TokTy.OPCODE_NAKED, String.ofList [a, b, c]) :: (scan cfg .initial f2 (ws ++ more)).toks.toList.map key ∧
    (scan cfg .initial f i).error.map errKey = (scan cfg .initial f2 (ws ++ more)).error.map errKey := by
  obtain ⟨p, t, n1, _, n3, n4, n5, n6, _⟩ := lexInitial_naked cfg s a b c ws more hst
    (by rw [show s.input = i.toArray from hs.input]; exact hd) ha hmn hno hws hmore hsep
  have := scan_step_from f2 (c := [a, b, c]) hs hd (List.cons_ne_nil _ _) n1 n3 n4 n5
  rwa [n6] at this

open ScanS ScanX ScanK in
/-- **an end-of-line comment after an instruction that stands alone changes nothing but the COMMENT token it adds** — the
    one place where the scanner looks *through* a comment (the look-ahead of `lex_opcode` that decides OPCODE_NAKED).  At
    any between-token point with a mnemonic `abc` that may stand alone ahead, followed by blanks / tabs `ws` (at least
    one) and `; cs ⏎ r`, the tokens from there on are OPCODE_NAKED `abc`, one COMMENT, then those of the scan of `r`; with
    `ws2 ⏎ r` ahead instead they are OPCODE_NAKED `abc`, then those of the scan of `r`. -/
theorem naked_opcode_eol_comment (cfg : ScanCfg) (f f2 : Nat) (i1 i2 cs r ws ws2 : List Char) (a b c : Char) (s1 s2 : Scan)
    (h1 : Reach cfg .initial (initState f i1) s1) (h2 : Reach cfg .initial (initState f i2) s2)
    (b1 : s1.start = s1.pos) (b2 : s2.start = s2.pos)
    (d1 : i1.drop s1.pos = a :: b :: c :: (ws ++ ';' :: (cs ++ '\n' :: r)))
    (d2 : i2.drop s2.pos = a :: b :: c :: (ws2 ++ '\n' :: r))
    (ha : letterChars.contains a = true)
    (hmn : cfg.mnemonics.contains (asciiLower (String.ofList [a, b, c])) = true)
    (hno : cfg.noOperand.contains (asciiLower (String.ofList [a, b, c])) = true)
    (hws : ∀ c ∈ ws, c = ' ' ∨ c = '\t') (hws2 : ∀ c ∈ ws2, c = ' ' ∨ c = '\t') (hne : ws ≠ [])
    (hnl : ∀ c ∈ cs, c ≠ '\n') :
    ∃ t : Tok, t.ty = .COMMENT ∧
      ((scan cfg .initial f i1).toks.toList.drop s1.toks.size).map key =
        (TokTy.OPCODE_NAKED, String.ofList [a, b, c]) :: key t :: (scan cfg .initial f2 r).toks.toList.map key ∧
      ((scan cfg .initial f i2).toks.toList.drop s2.toks.size).map key =
        (TokTy.OPCODE_NAKED, String.ofList [a, b, c]) :: (scan cfg .initial f2 r).toks.toList.map key ∧
      (scan cfg .initial f i1).error.map errKey = (scan cfg .initial f i2).error.map errKey := by
  obtain ⟨k1, k2⟩ := naked_at_point cfg f f2 i1 ws (';' :: (cs ++ '\n' :: r)) a b c s1 h1 b1 d1 ha hmn hno hws
    (.inr (.inr rfl)) (.inl hne)
  obtain ⟨j1, j2⟩ := naked_at_point cfg f f2 i2 ws2 ('\n' :: r) a b c s2 h2 b2 d2 ha hmn hno hws2 (.inr (.inl rfl))
    (.inr (by rw [List.head?_cons]; decide))
  have c1 := ((scansTo_blanks cfg f2 (all_of_eq_or hws rfl rfl)).append (scansTo_comment cfg f2 (.line hnl))) r
  have c2 := scansTo_blanks cfg f2 (c := ws2 ++ ['\n']) (by rw [List.all_append, all_of_eq_or hws2 rfl rfl]; rfl) r
  simp only [List.append_assoc, List.cons_append, List.nil_append] at c1 c2
  exact ⟨⟨.COMMENT, _, -1, -1, 0, true⟩, rfl, by rw [k1, c1.1]; rfl, by rw [j1, c2.1], by rw [k2, j2, c1.2, c2.2]⟩

/-- the types and texts of the tokens the parser sees: COMMENT tokens apart (`comment_skipped`) -/
def codeKeys (ts : Array Tok) : List (TokTy × String) := (ts.toList.map ScanS.key).filter fun k => k.1 != .COMMENT

/-- a chunk whose tokens are all COMMENTs is invisible to the parser (`comment_skipped`) -/
theorem ScansTo.transparent {cfg : ScanCfg} {f : Nat} {c : List Char} {K : List (TokTy × String)} (hc : ScansTo cfg f c K)
    (hK : K.filter (fun k => k.1 != .COMMENT) = []) (r : List Char) :
    codeKeys (scan cfg .initial f (c ++ r)).toks = codeKeys (scan cfg .initial f r).toks ∧
    (scan cfg .initial f (c ++ r)).error.map ScanS.errKey = (scan cfg .initial f r).error.map ScanS.errKey := by
  unfold codeKeys
  rw [(hc r).1, List.filter_append, hK]
  exact ⟨rfl, (hc r).2⟩

open ScanS ScanX in
theorem ScansTo.transparent_between {cfg : ScanCfg} {f : Nat} {c : List Char} {K : List (TokTy × String)}
    (hc : ScansTo cfg f c K) (hK : K.filter (fun k => k.1 != .COMMENT) = []) (hcfg : ScanP.CfgOK cfg) (p r : List Char)
    (he : Ends p.toArray) (hok : (scan cfg .initial f p).error = none) :
    codeKeys (scan cfg .initial f (p ++ (c ++ r))).toks = codeKeys (scan cfg .initial f (p ++ r)).toks ∧
    (scan cfg .initial f (p ++ (c ++ r))).error.map errKey = (scan cfg .initial f (p ++ r)).error.map errKey := by
  have hp := scansTo_lines cfg hcfg f he hok
  have h3 := hc.transparent hK r
  unfold codeKeys at h3 ⊢
  exact ⟨by rw [(hp (c ++ r)).1, (hp r).1, List.filter_append, List.filter_append, h3.1], by rw [(hp (c ++ r)).2, (hp r).2, h3.2]⟩

/-- a piece of layout that may stand between two lines: blanks / blank lines, a `;` comment line behind indentation, or
    a `/* … */` comment behind indentation -/
inductive Filler
  | blanks (ws : List Char)
  | line (ws cs : List Char)
  | block (ws body : List Char)

def Filler.text : Filler → List Char
  | .blanks ws => ws
  | .line ws cs => ws ++ ';' :: (cs ++ ['\n'])
  | .block ws body => ws ++ '/' :: '*' :: (body ++ ['*', '/'])

def Filler.Ok : Filler → Prop
  | .blanks ws => ws.all isBlank = true
  | .line ws cs => ws.all isBlank = true ∧ ∀ x ∈ cs, x ≠ '\n'
  | .block ws body => ws.all isBlank = true ∧ ScanS.NoClose body

def fillerText : List Filler → List Char
  | [] => []
  | c :: rest => c.text ++ fillerText rest

theorem Filler.scansTo (cfg : ScanCfg) (f : Nat) : ∀ (c : Filler), c.Ok →
    ∃ K, ScansTo cfg f c.text K ∧ K.filter (fun k => k.1 != .COMMENT) = []
  | .blanks _, h => ⟨[], scansTo_blanks cfg f h, rfl⟩
  | .line _ _, h => ⟨_, (scansTo_blanks cfg f h.1).append (scansTo_comment cfg f (.line h.2)), rfl⟩
  | .block _ _, h => ⟨_, (scansTo_blanks cfg f h.1).append (scansTo_comment cfg f (.block h.2)), rfl⟩

theorem fillerText_scansTo (cfg : ScanCfg) (f : Nat) : ∀ (fs : List Filler), (∀ c ∈ fs, c.Ok) →
    ∃ K, ScansTo cfg f (fillerText fs) K ∧ K.filter (fun k => k.1 != .COMMENT) = []
  | [], _ => ⟨[], .nil cfg f, rfl⟩
  | c :: rest, h => by
    obtain ⟨K, h1, h2⟩ := Filler.scansTo cfg f c (h c List.mem_cons_self)
    obtain ⟨L, h3, h4⟩ := fillerText_scansTo cfg f rest fun x hx => h x (List.mem_cons_of_mem _ hx)
    exact ⟨K ++ L, h1.append h3, by rw [List.filter_append, h2, h4]; rfl⟩

open ScanS ScanX in
/-- **inserting or removing a full-line `;` comment between lines changes no token the parser sees**: for a
    newline-terminated `p` that scans without error, any indentation `ws` (blanks, tabs, blank lines), any comment text
    `cs` and any following text `r`, the non-COMMENT tokens of `p ++ ws ++ "; cs \n" ++ r` have the types and texts of
    those of `p ++ r`, and the two scans end alike (`comment_skipped` is the parser half). -/
theorem insert_comment_line (cfg : ScanCfg) (hcfg : ScanP.CfgOK cfg) (f : Nat) (p ws cs r : List Char)
    (he : Ends p.toArray) (hok : (scan cfg .initial f p).error = none) (hws : ws.all isBlank = true)
    (hnl : ∀ c ∈ cs, c ≠ '\n') :
    codeKeys (scan cfg .initial f (p ++ (ws ++ ';' :: (cs ++ '\n' :: r)))).toks = codeKeys (scan cfg .initial f (p ++ r)).toks ∧
    (scan cfg .initial f (p ++ (ws ++ ';' :: (cs ++ '\n' :: r)))).error.map errKey =
      (scan cfg .initial f (p ++ r)).error.map errKey := by
  obtain ⟨K, h1, h2⟩ := Filler.scansTo cfg f (.line ws cs) ⟨hws, hnl⟩
  simpa only [Filler.text, List.append_assoc, List.cons_append, List.nil_append] using h1.transparent_between h2 hcfg p r he hok

/-! non-vacuity: the hypotheses of `blanks_between_tokens` hold at concrete points (checked by evaluation), and the
    conclusion is observed on the same texts (these two `example`s are tests, not the theorem) -/
private def cfgX : ScanCfg := ⟨["nop", "lda"], ["nop"], ["db"]⟩
private def bnd (k : Nat) (i : List Char) : Option Scan := ScanS.iter cfgX .initial k (ScanS.initState 0 i)
private def okB (o1 o2 : Option Scan) (i1 i2 : List Char) : Bool :=
  match o1, o2 with
  | some s1, some s2 =>
    s1.start == s1.pos && s2.start == s2.pos && decide (s1.pos ≤ i1.length) && decide (s2.pos ≤ i2.length) &&
      ((i1.drop s1.pos).dropWhile isBlank == (i2.drop s2.pos).dropWhile isBlank)
  | _, _ => false
/-- blank lines and indentation: after the first `nop` of "nop⏎⏎   nop⏎" and of "nop⏎nop⏎" -/
example : okB (bnd 1 "nop\n\n   nop\n".toList) (bnd 1 "nop\nnop\n".toList) "nop\n\n   nop\n".toList "nop\nnop\n".toList = true := by
  decide +kernel
/-- an end-of-line comment: after the comment of "nop ; c⏎lda #1⏎" (two iterations) and after `nop` of "nop⏎lda #1⏎" -/
example : okB (bnd 2 "nop ; c\nlda #1\n".toList) (bnd 1 "nop\nlda #1\n".toList) "nop ; c\nlda #1\n".toList "nop\nlda #1\n".toList = true := by
  decide +kernel
example : ((scan cfgX .initial 0 "nop ; c\nlda #1\n".toList).toks.toList.drop 2).map ScanS.key
    = ((scan cfgX .initial 0 "nop\nlda #1\n".toList).toks.toList.drop 1).map ScanS.key := by decide +kernel
/-- non-vacuity of `scan_append`: a two-line chunk with an indented comment line ends with a newline and scans without error
    under a configuration whose mnemonics hold no newline -/
example : ScanX.Ends "nop\n  ; note\n".toList.toArray ∧ (scan cfgX .initial 0 "nop\n  ; note\n".toList).error = none ∧
    ScanP.CfgOK cfgX := by
  refine ⟨by unfold ScanX.Ends; decide +kernel, by decide +kernel, by unfold ScanP.CfgOK cfgX; decide +kernel⟩
/-- the equation of `scan_append_tokens` observed on a sample (a test): "nop⏎  ; note⏎" ++ "lda #1⏎" -/
example : (scan cfgX .initial 0 ("nop\n  ; note\n" ++ "lda #1\n").toList).toks.toList.map ScanS.key =
    (scan cfgX .initial 0 "nop\n  ; note\n".toList).toks.pop.toList.map ScanS.key ++
      (scan cfgX .initial 0 "lda #1\n".toList).toks.toList.map ScanS.key := by decide +kernel
/-- the text of a run of full-line `;` comments, each behind its own indentation -/
def commentLines : List (List Char × List Char) → List Char
  | [] => []
  | (ws, cs) :: rest => ws ++ ';' :: (cs ++ '\n' :: commentLines rest)

open ScanS ScanX in
/-- **any number of full-line comments between two lines change no token the parser sees**: for every list of
    (indentation, comment text) pairs (blank indentation, newline-free text) -/
theorem insert_comment_lines (cfg : ScanCfg) (hcfg : ScanP.CfgOK cfg) (f : Nat) (p r : List Char)
    (he : Ends p.toArray) (hok : (scan cfg .initial f p).error = none) :
    ∀ (cms : List (List Char × List Char)), (∀ c ∈ cms, c.1.all isBlank = true ∧ ∀ x ∈ c.2, x ≠ '\n') →
    codeKeys (scan cfg .initial f (p ++ (commentLines cms ++ r))).toks = codeKeys (scan cfg .initial f (p ++ r)).toks ∧
    (scan cfg .initial f (p ++ (commentLines cms ++ r))).error.map errKey = (scan cfg .initial f (p ++ r)).error.map errKey := by
  intro cms h
  have e : commentLines cms = fillerText (cms.map fun c => .line c.1 c.2) := by
    induction cms with
    | nil => rfl
    | cons c rest ih =>
      rw [List.map_cons, fillerText, ← ih fun x hx => h x (List.mem_cons_of_mem _ hx)]
      simp only [commentLines, Filler.text, List.append_assoc, List.cons_append, List.nil_append]
  obtain ⟨K, h1, h2⟩ := fillerText_scansTo cfg f (cms.map fun c => .line c.1 c.2) (by
    intro c hc
    obtain ⟨x, hx, rfl⟩ := List.mem_map.mp hc
    exact h x hx)
  rw [e]
  exact h1.transparent_between h2 hcfg p r he hok

open ScanS ScanX in
/-- **inserting or removing a `/* … */` comment between lines changes no token the parser sees**: as
    `insert_comment_line`, for a comment of any shape (several lines, banner, switched-off code) opened at a
    between-token point after the newline-terminated `p` and any indentation `ws`; `r` continues right behind the `*/`. -/
theorem insert_block_comment (cfg : ScanCfg) (hcfg : ScanP.CfgOK cfg) (f : Nat) (p ws body r : List Char)
    (he : Ends p.toArray) (hok : (scan cfg .initial f p).error = none) (hws : ws.all isBlank = true)
    (hnc : NoClose body) :
    codeKeys (scan cfg .initial f (p ++ (ws ++ '/' :: '*' :: (body ++ '*' :: '/' :: r)))).toks =
      codeKeys (scan cfg .initial f (p ++ r)).toks ∧
    (scan cfg .initial f (p ++ (ws ++ '/' :: '*' :: (body ++ '*' :: '/' :: r)))).error.map errKey =
      (scan cfg .initial f (p ++ r)).error.map errKey := by
  obtain ⟨K, h1, h2⟩ := Filler.scansTo cfg f (.block ws body) ⟨hws, hnc⟩
  simpa only [Filler.text, List.append_assoc, List.cons_append, List.nil_append] using h1.transparent_between h2 hcfg p r he hok

open ScanS ScanX in
/-- **any mixture of blank lines, indentation, `;` comment lines and `/* */` comments between two lines changes no token
    the parser sees**: for a newline-terminated `p` that scans without error, every list of well-formed fillers and every
    following text `r`, the non-COMMENT tokens of `p ++ fillers ++ r` have the types and texts of those of `p ++ r`, and the
    two scans end alike -/
theorem insert_fillers (cfg : ScanCfg) (hcfg : ScanP.CfgOK cfg) (f : Nat) (p r : List Char)
    (he : Ends p.toArray) (hok : (scan cfg .initial f p).error = none) :
    ∀ (fs : List Filler), (∀ c ∈ fs, c.Ok) →
    codeKeys (scan cfg .initial f (p ++ (fillerText fs ++ r))).toks = codeKeys (scan cfg .initial f (p ++ r)).toks ∧
    (scan cfg .initial f (p ++ (fillerText fs ++ r))).error.map errKey = (scan cfg .initial f (p ++ r)).error.map errKey := by
  intro fs h
  obtain ⟨K, h1, h2⟩ := fillerText_scansTo cfg f fs h
  exact h1.transparent_between h2 hcfg p r he hok

open ScanS ScanX in
/-- **the same at the top of a file**: fillers in front of a text (a banner comment, blank lines, a commented-out block)
    change no token the parser sees and not how the scan ends -/
theorem leading_fillers (cfg : ScanCfg) (f : Nat) (r : List Char) :
    ∀ (fs : List Filler), (∀ c ∈ fs, c.Ok) →
    codeKeys (scan cfg .initial f (fillerText fs ++ r)).toks = codeKeys (scan cfg .initial f r).toks ∧
    (scan cfg .initial f (fillerText fs ++ r)).error.map errKey = (scan cfg .initial f r).error.map errKey := by
  intro fs h
  obtain ⟨K, h1, h2⟩ := fillerText_scansTo cfg f fs h
  exact h1.transparent h2 r

/-- non-vacuity of `insert_fillers`: three well-formed fillers, and the conclusion observed on them (a test) -/
example : (Filler.blanks "\n  ".toList).Ok ∧ (Filler.line "\t".toList " it's /* {".toList).Ok ∧ (Filler.block " ".toList "/ nop\n /".toList).Ok := by
  refine ⟨?_, ⟨?_, ?_⟩, ⟨?_, ?_⟩⟩
  · show "\n  ".toList.all isBlank = true; decide +kernel
  · show "\t".toList.all isBlank = true; decide +kernel
  · show ∀ x ∈ " it's /* {".toList, x ≠ '\n'; decide +kernel
  · show " ".toList.all isBlank = true; decide +kernel
  · show ScanS.NoClose "/ nop\n /".toList; unfold ScanS.NoClose; decide +kernel
example : codeKeys (scan cfgX .initial 0 ("nop\n".toList ++ (fillerText [.blanks "\n  ".toList, .line "\t".toList " it's /* {".toList,
      .block " ".toList "/ nop\n /".toList, .blanks "\n".toList] ++ "lda #1\n".toList))).toks =
    codeKeys (scan cfgX .initial 0 ("nop\n".toList ++ "lda #1\n".toList)).toks := by decide +kernel

/-- non-vacuity of `insert_comment_line`: its hypotheses hold for "nop⏎", indentation "  ⇥", the comment text
    " it's /* {" and the sample configuration; and the conclusion observed on that sample (a test) -/
example : ScanX.Ends "nop\n".toList.toArray ∧ (scan cfgX .initial 0 "nop\n".toList).error = none ∧
    "  \t".toList.all isBlank = true ∧ (∀ c ∈ " it's /* {".toList, c ≠ '\n') := by
  refine ⟨by unfold ScanX.Ends; decide +kernel, by decide +kernel, by decide +kernel, by decide +kernel⟩
example : codeKeys (scan cfgX .initial 0 ("nop\n" ++ ("  \t" ++ "; it's /* {\n" ++ "lda #1\n")).toList).toks =
    codeKeys (scan cfgX .initial 0 ("nop\n" ++ "lda #1\n").toList).toks := by decide +kernel
/-- non-vacuity of `NoClose`: the `/*/ … /*/` idiom (body "/ nop⏎ /"), a banner body "///// t ////" and a body ending in `*` -/
example : ScanS.NoClose "/ nop\n /".toList ∧ ScanS.NoClose "///// t ////".toList ∧ ScanS.NoClose " a **".toList := by
  refine ⟨?_, ?_, ?_⟩ <;> (unfold ScanS.NoClose; decide +kernel)
example : codeKeys (scan cfgX .initial 0 ("nop\n" ++ (" " ++ "/*/ nop\n /*/" ++ "\nlda #1\n")).toList).toks =
    codeKeys (scan cfgX .initial 0 ("nop\n" ++ "\nlda #1\n").toList).toks := by decide +kernel

/-- non-vacuity of `comment_at_point` for an end-of-line comment: behind "lda #1 " the scan is at a between-token point
    (head of the second iteration of the outer loop, computed by `iter`; `reach_iter` makes it a `Reach` point) with
    "; c⏎nop⏎" ahead -/
example : (bnd 1 "lda #1 ; c\nnop\n".toList).map (fun s => (s.start == s.pos, "lda #1 ; c\nnop\n".toList.drop s.pos)) =
    some (true, "; c\nnop\n".toList) := by decide +kernel

/-- non-vacuity of `naked_opcode_eol_comment`: `nop` in the sample configuration meets its mnemonic hypotheses (the
    between-token points and the conclusion on "nop ; c⏎lda #1⏎" / "nop⏎lda #1⏎" are the `okB (bnd 2 …)` example above) -/
example : letterChars.contains 'n' = true ∧ cfgX.mnemonics.contains (asciiLower (String.ofList ['n', 'o', 'p'])) = true ∧
    cfgX.noOperand.contains (asciiLower (String.ofList ['n', 'o', 'p'])) = true := by decide +kernel

end A816.C16

