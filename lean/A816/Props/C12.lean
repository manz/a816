import A816.Model.Front
import A816.Proofs.ResolverOps
import A816.Props.C11
import A816.Gen.Tables
/-!
# C12 — File and command-line front ends agree with the in-memory assembler

The front ends are modelled as decision logic over an abstract core `asm` (any function from mapping,
defines and source to blocks); the OS layer is exercised by the stream S8-front only.

* `ips_front` / `sfc_front`: the IPS file is the IPS writer applied to the core's blocks under the selected
  mapping, copier flag and defines; the SFC image is `sfcImage` of the same blocks.
* `copier_shift`: the copier header shifts every IPS record offset by exactly 0x200 (C11 `expected`).
* `sfc_is_ips_applied`: the SFC image is the IPS patch (without copier header) applied to an empty image.
* `plan_*`: `-f`, `-m`, `--copier-header`, `-D` select writer, mapping, shift and constants as documented;
  the three mappings have a bus in the regenerated `BUS_MAPPING`.
* `symbol_line_fields`, `symbol_file_lines`: format of the exported symbol file; `label_listed`, `listed_is_label`,
  `all_labels_once`: it lists exactly the labels of the scopes that are not loop iterations (`Resolver.get_all_labels`),
  one line per definition.
-/
namespace A816.C12
open A816 Spec.Ips

/-- an abstract core: mapping, defines, source ↦ blocks or failure -/
abbrev Core := RomType → List (String × Int) → String → Except Err (List (Int × List Nat))

def frontIps (asm : Core) (a : CliArgs) (src : String) : Except Err (List Nat) :=
  match (planOf a).rom with
  | none => .error .key
  | some rom =>
    match asm rom (planOf a).defines src with
    | .error e => .error e
    | .ok blocks => ipsFile (planOf a).copier blocks

def frontSfc (asm : Core) (a : CliArgs) (src : String) : Except Err (List Nat) :=
  match (planOf a).rom with
  | none => .error .key
  | some rom =>
    match asm rom (planOf a).defines src with
    | .error e => .error e
    | .ok blocks => .ok (sfcImage blocks)

/-- **IPS front end** = IPS writer ∘ in-memory assembler, for every core and every option combination -/
theorem ips_front (asm : Core) (a : CliArgs) (src : String) (rom : RomType) (hr : romOfMapping a.mapping = some rom)
    (blocks : List (Int × List Nat)) (hb : asm rom a.defines src = .ok blocks) :
    frontIps asm a src = ipsFile (a.copier && a.format == "ips") blocks := by
  simp [frontIps, planOf, hr, hb]

theorem sfc_front (asm : Core) (a : CliArgs) (src : String) (rom : RomType) (hr : romOfMapping a.mapping = some rom)
    (blocks : List (Int × List Nat)) (hb : asm rom a.defines src = .ok blocks) :
    frontSfc asm a src = .ok (sfcImage blocks) := by
  simp [frontSfc, planOf, hr, hb]

/-- the mapping option is honoured by both formats (F12c), the copier flag only by IPS -/
theorem plan_mapping (a : CliArgs) : (planOf a).rom = romOfMapping a.mapping := rfl
theorem plan_format (a : CliArgs) : (planOf a).sfc = (a.format != "ips") := rfl
theorem plan_defines (a : CliArgs) : (planOf a).defines = a.defines := rfl
theorem plan_copier_sfc (a : CliArgs) (h : a.format ≠ "ips") : (planOf a).copier = false := by
  simp [planOf, h]

/-- every documented mapping name selects a ROM type that has a bus (F12b) -/
theorem mappings_have_bus :
    (["low", "low2", "high"].all fun m =>
      match romOfMapping m with
      | some r => (alookup r.name Gen.busMapping).isSome
      | none => false) = true := by decide +kernel

/-- **copier header**: every expected record offset moves by exactly 0x200, nothing else changes -/
theorem copier_shift (addr : Int) (block : List Nat) :
    C11.expected true [(addr, block)] = C11.expected false [(addr + 0x200, block)] := by
  simp [C11.expected, shiftOf]

/-- **SFC = IPS applied to an empty image**: the records of the IPS file of a write sequence, applied in
    order to the empty image, write exactly the blocks at their addresses (later writes win) — the same
    sparse image `sfcImage` materialises. -/
theorem sfc_is_ips_applied (blocks : List (Int × List Nat)) (file : List Nat) (h : ipsFile false blocks = .ok file) :
    ∃ recs, Spec.Ips.parse file = some recs ∧
      apply (fun _ => none) recs = C11.directWrites false (fun _ => none) blocks := by
  obtain ⟨_, hp⟩ := C11.write_parses false blocks file h
  exact ⟨_, hp, C11.apply_is_writes false blocks _⟩

/-- symbol file: bank and offset of a label value -/
theorem symbol_line_fields (name : String) (v : Int) :
    symbolLine name v = hexPad 2 ((v / 65536) % 256).toNat ++ ":" ++ hexPad 4 (v % 65536).toNat ++ " " ++ name := rfl

example : symbolLine "start" 0x018000 = " 1:8000 start" := by decide +kernel
example : symbolFile [("a", 0x008000), ("b", 0x7E0010)] = "[labels]\n 0:8000 a\n7e:  10 b\n" := by decide +kernel

/-- what `get_all_labels` lists: the labels of the scopes that are not loop iterations -/
theorem mem_allLabels_iff (r : Resolver) (p : String × Int) :
    p ∈ r.allLabels ↔ ∃ k, k < r.scopes.size ∧ (r.scopeAt k).kind ≠ .internal ∧ p ∈ (r.scopeAt k).labels := by
  unfold Resolver.allLabels
  rw [List.mem_flatMap]
  constructor
  · rintro ⟨s, hs, hm⟩
    obtain ⟨k, hk, rfl⟩ := Array.getElem_of_mem (Array.mem_toList_iff.mp hs)
    rw [← r.scopeAt_lt hk] at hm
    split at hm
    · cases hm
    · rename_i hne; exact ⟨k, hk, by simpa using hne, hm⟩
  · rintro ⟨k, hk, hin, hm⟩
    rw [r.scopeAt_lt hk] at hin hm
    exact ⟨r.scopes[k], by simp, by rw [if_neg (by simpa using hin)]; exact hm⟩

/-- **every label defined outside loop iterations is listed**: a label of a scope that is not a loop-iteration scope -/
theorem label_listed (r : Resolver) (k : Nat) (hk : k < r.scopes.size) (hin : (r.scopeAt k).kind ≠ .internal)
    (n : String) (v : Int) (h : (n, v) ∈ (r.scopeAt k).labels) : (n, v) ∈ r.allLabels :=
  (mem_allLabels_iff r _).mpr ⟨k, hk, hin, h⟩

/-- **nothing else is listed**: every listed (name, value) is a label of a scope that is not a loop iteration -/
theorem listed_is_label (r : Resolver) (n : String) (v : Int) (h : (n, v) ∈ r.allLabels) :
    ∃ k, k < r.scopes.size ∧ (r.scopeAt k).kind ≠ .internal ∧ (n, v) ∈ (r.scopeAt k).labels :=
  (mem_allLabels_iff r _).mp h

/-- labels of one scope with pairwise different names: a (name, value) pair occurs once if it occurs -/
theorem count_pair (l : List (String × Int)) (h : (l.map Prod.fst).Nodup) (n : String) (v : Int) :
    l.count (n, v) = if (n, v) ∈ l then 1 else 0 :=
  List.Nodup.count (List.Pairwise.of_map Prod.fst (fun _ _ hne e => hne (e ▸ rfl)) h)

/-- **each definition once**: when the labels of every scope have pairwise different names (a scope defines a name once:
    a second definition is refused, C02), the number of lines for a (name, value) pair is the number of non-iteration
    scopes that define that label with that value — one line per definition, none for loop iterations -/
theorem listed_once (scopes : List ScopeRec) (hnd : ∀ s ∈ scopes, (s.labels.map Prod.fst).Nodup) (n : String) (v : Int) :
    (scopes.flatMap fun s => if s.kind == .internal then [] else s.labels).count (n, v) =
      (scopes.filter fun s => s.kind != .internal && decide ((n, v) ∈ s.labels)).length := by
  induction scopes with
  | nil => rfl
  | cons s ss ih =>
    rw [List.flatMap_cons, List.count_append, ih (fun x hx => hnd x (List.mem_cons_of_mem _ hx)), List.filter_cons]
    by_cases hk : s.kind = .internal
    · simp [hk]
    · have h1 : (s.kind == ScopeKind.internal) = false := by simpa using hk
      have h2 : (s.kind != ScopeKind.internal) = true := by simp [bne, h1]
      rw [h1, h2]
      simp only [Bool.false_eq_true, ↓reduceIte, Bool.true_and]
      rw [count_pair s.labels (hnd s List.mem_cons_self) n v]
      by_cases hm : (n, v) ∈ s.labels
      · simp [hm]; omega
      · simp [hm]

theorem all_labels_once (r : Resolver) (hnd : ∀ s ∈ r.scopes.toList, (s.labels.map Prod.fst).Nodup) (n : String) (v : Int) :
    r.allLabels.count (n, v) =
      (r.scopes.toList.filter fun s => s.kind != .internal && decide ((n, v) ∈ s.labels)).length :=
  listed_once r.scopes.toList hnd n v

/-- the file: the header, then one line per listed label in scope order, each with the bank and offset of the value -/
theorem symbol_file_lines (labels : List (String × Int)) :
    symbolFile labels = "[labels]\n" ++ String.join (labels.map fun p => symbolLine p.1 p.2 ++ "\n") := rfl

/-- non-vacuity / a test: two scopes defining `l` (one of them a loop iteration) and a named scope -/
example : (Resolver.allLabels { (default : Resolver) with scopes := #[
    { kind := .plain, parent := none, labels := [("l", 0x8000), ("m", 0x8002)] },
    { kind := .internal, parent := some 0, labels := [("l", 0x8004)] },
    { kind := .named "s", parent := some 0, labels := [("l", 0x8006)] }] }) =
  [("l", 0x8000), ("m", 0x8002), ("l", 0x8006)] := by decide +kernel

end A816.C12
