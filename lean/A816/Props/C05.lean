import A816.Proofs.Bytes
import A816.Proofs.Emit
import A816.Props.C04
/-!
# C05 — Relative branches encode the true displacement or are rejected

On the model of `RelativeJumpOpcode.emit` (every resolver state, every target value): an accepted branch is its opcode
followed by the two's-complement byte of `mapped offset(target) − resolver.pc − 2`, and that number lies in −128 … 127 — a
displacement is never truncated or wrapped (`C05_encode`, `C05_out_of_range_rejected`; a run address or target in RAM is
rejected).  `resolver.pc` is the mapped offset of the run address whenever that is ROM-mapped (`PcSync`: after `*=`, after
`@=`, kept by emission), so the displacement is taken from the run address in effect; inside the window of one bank the
difference of mapped offsets is the difference of the addresses (`same_bank_displacement`).
-/
namespace A816.C05
open A816 Spec

/-- `resolver.pc` tracks the mapped offset of the run address -/
def PcSync (r : Resolver) : Prop := ∀ p, r.reloc.physical = some p → r.pc = p

/-- moving to an address sets `resolver.pc` to its mapped offset when it has one -/
theorem pcSync_moved (r : Resolver) (a : Address) : PcSync { r with pc := a.physical.getD r.pc, reloc := a } := by
  intro p hp
  show a.physical.getD r.pc = p
  rw [show a.physical = some p from hp]; rfl

theorem pcSync_setPosition (r r' : Resolver) (v : Int) (h : r.setPosition v = some r') : PcSync r' := by
  obtain ⟨_, a, _, _, rfl⟩ := Resolver.setPosition_some h
  exact pcSync_moved r a

/-- both position directives (`*=` and `@=`) re-establish the invariant -/
theorem pcSync_after_position (env : Env) (n : Node) (e : PExpr) (info : Tok) (hn : n = .codePos e info ∨ n = .reloc e info)
    (st st' : EmitState) (h : emitStep env n st = .ok st') : PcSync st'.r := by
  obtain ⟨r1, bs, o⟩ := emitStep_spec h
  obtain ⟨rfl, v, bus, a, _, _, _, rfl⟩ := emitNode_position hn o.emit
  rw [o.same rfl]
  exact pcSync_moved st.r a

/-- emission keeps it (advance inside the mapped range) -/
theorem pcSync_emit (env : Env) (n : Node) (st st' : EmitState) (h : emitStep env n st = .ok st')
    (r1 : Resolver) (bs : List Nat) (hem : emitNode env n st.r = .ok (r1, bs)) (hbs : bs ≠ [])
    (hsame : r1.reloc = st.r.reloc ∧ r1.pc = st.r.pc) (hsync : PcSync st.r)
    (hwf : st.r.reloc.WF) (hrom : st.r.reloc.mapping.RomWF) (p : Nat) (hp : st.r.reloc.physical = some (p : Int))
    (hstay : st.r.reloc.bus.mappingForBank ((Spec.address st.r.reloc.mapping.range (p + bs.length)) >>> 16)
        = some st.r.reloc.mapping) :
    PcSync st'.r := by
  obtain ⟨r1', bs', o⟩ := emitStep_spec h
  cases hem.symm.trans o.emit
  obtain ⟨a', ha', hr'⟩ := o.moved hbs
  obtain ⟨A', hadd, _, _, _, _, hphys, _⟩ := C04.add_rom st.r.reloc hwf hrom p bs.length hp hstay
  rw [hsame.1, hadd] at ha'
  cases ha'
  intro q hq
  rw [hr'] at hq ⊢
  simp only at hq ⊢
  rw [hphys] at hq
  cases hq
  rw [hsame.2, hsync p hp]
  push_cast; rfl

/-- **C05 (encoding)**: an accepted branch = opcode, then the signed byte of `offset(target) − pc − 2`,
    which is within −128 … 127; with `PcSync` that is `offset(target) − offset(run address) − 2`. -/
theorem C05_encode (r : Resolver) (e : OpEntry) (v : Int) (bs : List Nat) (h : emitRelative r e v = .ok bs) :
    ∃ (pr : Int) (bus : BusCfg) (dest : Address) (pd : Int) (op : Nat),
      r.reloc.physical = some pr ∧ r.getBus = some bus ∧ Address.mk? bus v = some dest ∧ dest.physical = some pd ∧
      opcodeByte e 1 = some op ∧ -128 ≤ pd - r.pc - 2 ∧ pd - r.pc - 2 ≤ 127 ∧
      bs = [op, ((pd - r.pc - 2) % 256).toNat] := by
  unfold emitRelative at h
  cases h1 : r.reloc.physical with
  | none => simp [h1] at h
  | some pr =>
    simp only [h1] at h
    cases h2 : r.getBus with
    | none => simp [h2] at h
    | some bus =>
      simp only [h2] at h
      cases h3 : Address.mk? bus v with
      | none => simp [h3] at h
      | some dest =>
        simp only [h3] at h
        cases h4 : dest.physical with
        | none => simp [h4] at h
        | some pd =>
          simp only [h4] at h
          cases h5 : opcodeByte e 1 with
          | none => simp [h5] at h
          | some op =>
            simp only [h5] at h
            split at h
            · rename_i a b ha hb
              obtain ⟨_, rfl⟩ := packB_eq_some.mp ha
              obtain ⟨hd, rfl⟩ := packSb_eq_some.mp hb
              cases h
              exact ⟨pr, bus, dest, pd, op, rfl, rfl, h3, h4, rfl, hd.1, hd.2, rfl⟩
            · cases h

/-- **never truncated**: a displacement outside −128 … 127 is rejected. -/
theorem C05_out_of_range_rejected (r : Resolver) (e : OpEntry) (v : Int) (bus : BusCfg) (dest : Address) (pd : Int)
    (hb : r.getBus = some bus) (hd : Address.mk? bus v = some dest) (hp : dest.physical = some pd)
    (hr : pd - r.pc - 2 < -128 ∨ 127 < pd - r.pc - 2) : ∃ err, emitRelative r e v = .error err := by
  cases h : emitRelative r e v with
  | error er => exact ⟨er, rfl⟩
  | ok bs =>
    obtain ⟨_, bus', dest', pd', _, _, hb', hd', hp', _, l, u, _⟩ := C05_encode r e v bs h
    rw [hb] at hb'; cases hb'
    rw [hd] at hd'; cases hd'
    rw [hp] at hp'; cases hp'
    omega

/-- a branch whose run address lies in RAM-mapped space is rejected (F05 repair) -/
theorem C05_source_ram_rejected (r : Resolver) (e : OpEntry) (v : Int) (h : r.reloc.physical = none) :
    emitRelative r e v = .error .runtime := by
  simp [emitRelative, h]

/-- a branch whose target lies in RAM-mapped space is rejected -/
theorem C05_target_ram_rejected (r : Resolver) (e : OpEntry) (v : Int) (pr : Int) (bus : BusCfg) (dest : Address)
    (h1 : r.reloc.physical = some pr) (h2 : r.getBus = some bus) (h3 : Address.mk? bus v = some dest)
    (h4 : dest.physical = none) : emitRelative r e v = .error .runtime := by
  simp [emitRelative, h1, h2, h3, h4]

/-- **the displacement is target − (branch address + 2)**: inside the window of one bank of one mapped
    range, the difference of the mapped offsets is the difference of the addresses. -/
theorem same_bank_displacement (rg : Spec.Range) (hs : rg.size = 0x8000 ∨ rg.size = 0x10000) (a t : Nat)
    (hbank : bankOf a = bankOf t) (hlo : rg.first ≤ bankOf a) (ha : inWindow rg.size a) (ht : inWindow rg.size t) :
    (Spec.offset rg t : Int) - (Spec.offset rg a : Int) - 2 = (t : Int) - ((a : Int) + 2) := by
  unfold Spec.offset bankOf inBank inWindow windowStart inBank at *
  rcases hs with h | h <;> simp only [h] at * <;> omega

/-! non-vacuity: the repository's own short-jump test (`bra` back to the start of the bank) -/
example : (Spec.offset ⟨0, 0x6F, 0x8000⟩ 0x008000 : Int) - (Spec.offset ⟨0, 0x6F, 0x8000⟩ 0x008004 : Int) - 2 = -6 := by
  decide +kernel

end A816.C05
