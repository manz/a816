import A816.Model.Codegen
import A816.Proofs.Cpu
import A816.Proofs.NodeSteps
/-!
# C07 — Data directives emit the exact little-endian bytes of their values

For every directive kind, every list and every integer value (negative = two's complement, wider
than the field = truncated): the bytes of `.db/.dw/.dl/.pointer` are the little-endian bytes of
`value mod 256^w` (w = 1, 2, 3, 3), one group per listed expression, in order; `.ascii` emits the
ASCII code points of the text; `.incbin` emits the file verbatim and defines its start and size
symbols; each occupies exactly its emitted size in the address layout.
-/
namespace A816.C07
open A816

/-- width of a data directive -/
def widthOf (kind : String) : Nat := if kind == "db" then 1 else if kind == "dw" then 2 else 3

theorem leBytes_length (w v : Nat) : (leBytes w v).length = w := by
  induction w generalizing v with
  | zero => rfl
  | succ w ih => simp [leBytes, ih]

/-- little-endian decoding recovers the value modulo 256^w -/
theorem leBytes_decode (w v : Nat) : decodeLE (leBytes w v) = v % 256 ^ w := by
  induction w generalizing v with
  | zero => simp [leBytes, decodeLE, Nat.mod_one]
  | succ w ih =>
    simp only [leBytes, decodeLE, ih]
    rw [Nat.pow_succ, Nat.mul_comm (256 ^ w) 256, Nat.mod_mul]

theorem leBytes_lt (w v : Nat) : ∀ b ∈ leBytes w v, b < 256 := by
  induction w generalizing v with
  | zero => simp [leBytes]
  | succ w ih =>
    intro b hb
    simp only [leBytes, List.mem_cons] at hb
    rcases hb with rfl | hb
    · omega
    · exact ih _ b hb

/-- **one data item**: its bytes are the little-endian truncation of its value, for every value;
    the resolver is untouched. -/
theorem data_bytes (env : Env) (w : Nat) (e : PExpr) (info : Tok) (r r' : Resolver) (bs : List Nat)
    (h : emitNode env (.data w e info) r = .ok (r', bs)) :
    r' = r ∧ ∃ v : Int, getValue env r e info = .ok v ∧ bs = leBytes w (v % ((256 ^ w : Nat) : Int)).toNat ∧
      decodeLE bs = (v % ((256 ^ w : Nat) : Int)).toNat := by
  unfold emitNode at h
  cases hv : getValue env r e info with
  | error er => simp [hv] at h
  | ok v =>
    simp only [hv, Except.ok.injEq, Prod.mk.injEq] at h
    obtain ⟨rfl, rfl⟩ := h
    refine ⟨rfl, v, rfl, rfl, ?_⟩
    obtain ⟨n, hn, e⟩ := emod_nat v (Nat.pow_pos (n := w) (show 0 < 256 by decide))
    rw [leBytes_decode, e, Int.toNat_natCast, Nat.mod_eq_of_lt hn]

/-- negative values are emitted in two's complement: `-1` as a word is `FF FF` -/
example : leBytes 2 ((-1 : Int) % ((256 ^ 2 : Nat) : Int)).toNat = [0xFF, 0xFF] := by decide +kernel
example : leBytes 3 ((0x12345678 : Int) % ((256 ^ 3 : Nat) : Int)).toNat = [0x78, 0x56, 0x34] := by decide +kernel

/-- **layout**: a data item occupies exactly its width: the label pass advances the address by `w`
    (`Address + w`) and emission produces `w` bytes. -/
theorem data_size_agree (env : Env) (w : Nat) (e : PExpr) (info : Tok) (r r1 r2 : Resolver) (pc pc' : Address)
    (bs : List Nat) (hp : pcAfter env (.data w e info) r pc = .ok (r1, pc'))
    (he : emitNode env (.data w e info) r2 = .ok (r2, bs)) :
    r1 = r ∧ pc.add w = some pc' ∧ bs.length = w := by
  obtain ⟨h1, h2⟩ := addrAdd_map_ok hp
  obtain ⟨_, v, _, hb, _⟩ := data_bytes env w e info r2 r2 bs he
  exact ⟨h1, h2, by rw [hb, leBytes_length]⟩

/-- **`.ascii`**: the ASCII code points of the text, in order (non-ASCII characters are dropped, as
    `encode("ascii", errors="ignore")` does); the same list gives its size in the layout. -/
theorem ascii_bytes (env : Env) (s : String) (r : Resolver) :
    emitNode env (.ascii s) r = .ok (r, (s.toList.filter fun c => c.toNat < 128).map Char.toNat) := rfl

theorem ascii_size_agree (env : Env) (s : String) (r r1 : Resolver) (pc pc' : Address)
    (hp : pcAfter env (.ascii s) r pc = .ok (r1, pc')) :
    r1 = r ∧ pc.add (asciiBytes s).length = some pc' :=
  addrAdd_map_ok hp

/-- **`.incbin`**: the file's bytes verbatim (when the start symbol still sits at its address) … -/
theorem incbin_bytes (env : Env) (content : List Nat) (base : String) (r r' : Resolver) (bs : List Nat)
    (h : emitNode env (.binary content base) r = .ok (r', bs)) : r' = r ∧ bs = content := by
  obtain ⟨hr, _, _, hb⟩ := Except.map_pair_ok h
  exact ⟨hr, hb.symm⟩

/-- … and the label pass defines `<name>` = start address, `<name>__size` = length, advancing by the length. -/
theorem incbin_symbols (env : Env) (content : List Nat) (base : String) (r r1 : Resolver) (pc pc' : Address)
    (h : pcAfter env (.binary content base) r pc = .ok (r1, pc')) :
    pc.add content.length = some pc' ∧
    r1 = (r.addLabel base pc.logical).addSymbol (base ++ "__size") content.length := by
  unfold pcAfter addrAdd at h
  cases ha : pc.add content.length with
  | none => simp [ha] at h
  | some a =>
    simp only [ha, Except.ok.injEq, Prod.mk.injEq] at h
    exact ⟨by rw [h.2], h.1.symm⟩

/-- code generation: one data node per listed expression, in order, all of the directive's width
    (`.pointer` = `.dl`). -/
theorem gen_data (env : Env) (fuel : Nat) (kind : String) (es : List PExpr) (info : Tok) (st : GenState) :
    (gen env (fuel + 1) (.data kind es info)).run st
      = .ok (es.map (fun e => Node.data (widthOf kind) e info), st) := by
  simp [gen, widthOf, StateT.run, pure, StateT.pure, Except.pure]

example : widthOf "db" = 1 ∧ widthOf "dw" = 2 ∧ widthOf "dl" = 3 ∧ widthOf "pointer" = 3 := by decide +kernel

end A816.C07
