import A816.Proofs.Cpu
import A816.Proofs.ParseOpcode
import A816.Proofs.NodeSteps
import A816.Model.OpsParse
import A816.Gen.Tables
import A816.Spec.Supported
/-!
# C01 — Accepted instructions encode exactly as the 65c816 ISA defines

The tables regenerated from `/repo` enter through three kernel evaluations: every leaf of the opcode table against the
65c816 matrix of `Spec/ISA.lean` (`table_sound`), the parser's addressing-mode decision against the standard reading of
the operand syntax on all 192 syntax records (`syntax_all`), the frozen supported set against the table
(`supported_all`).  The rest is proved for every table and index map that pass these checks and for every operand value
(`encode_sound`, `encode_supported`), and then read at the regenerated ones.  The last part ties the decision table to
the parser model (`C01_parse_shape`, `C01_parse_naked`) and to the emission pass (`C01_emit_is_encode`,
`C01_node_sound`), so that the statements are about what the pipeline model does with a source instruction.
-/
namespace A816.C01
open A816 Spec

/-- may the mnemonic's immediate operand be 16 bits wide -/
def isMx (mn : String) : Bool := mxImmediate.contains mn

def isIndexedMode : AddrMode → Bool
  | .direct_indexed | .indirect_indexed | .indirect_indexed_long | .dp_or_sr_indirect_indexed
  | .stack_indexed_indirect_indexed => true
  | _ => false

/-- the addressing shape a table position (`AddressingMode`, index key) denotes at width `w` -/
def shapeOfMode (mx : Bool) (mode : AddrMode) (idx : Option Idx) (w : Nat) : Option Shape :=
  match mode, idx with
  | .none, none => if w = 0 then some .imp else none
  | .immediate, none => if w = 1 then some .imm else if w = 2 && mx then some .imm else none
  | .direct, none => if w = 1 then some .dp else if w = 2 then some .abs else if w = 3 then some .long else none
  | .direct_indexed, some .x => if w = 1 then some .dpx else if w = 2 then some .absx else if w = 3 then some .longx else none
  | .direct_indexed, some .y => if w = 1 then some .dpy else if w = 2 then some .absy else none
  | .direct_indexed, some .s => if w = 1 then some .sr else none
  | .indirect, none => if w = 1 then some .ind else if w = 2 then some .absind else none
  | .indirect_indexed, some .y => if w = 1 then some .indy else none
  | .indirect_long, none => if w = 1 then some .indl else if w = 2 then some .absindl else none
  | .indirect_indexed_long, some .y => if w = 1 then some .indly else none
  | .dp_or_sr_indirect_indexed, some .x => if w = 1 then some .indx else if w = 2 then some .absindx else none
  | .stack_indexed_indirect_indexed, some .y => if w = 1 then some .sry else none
  | _, _ => none

/-- one table leaf is right: structure, byte range, and every opcode byte is the ISA's -/
def entryOk (e : OpEntry) : Bool :=
  (e.index.isSome == isIndexedMode e.mode) &&
  (e.bytes.all fun b => match b with | some op => decide (op ≤ 255) | none => true) &&
  (match e.kind with
   | .implied => e.mode == .none && e.bytes.length == 1 && (opcodeByte e 1).isSome && opcodeByte e 1 == isaFor e.mn .imp
   | .relative => e.mode == .direct && e.bytes.length == 1 && (opcodeByte e 1).isSome && opcodeByte e 1 == isa e.mn .rel
   | .sized => e.mode != .none && decide (e.bytes.length ≤ 3) &&
       [1, 2, 3].all fun w =>
         match opcodeByte e w with
         | none => true
         | some op => (shapeOfMode (isMx e.mn) e.mode e.index w).bind (isaFor e.mn) == some op)

/-- **Every entry of the regenerated opcode table agrees with the 65c816 matrix.** -/
theorem table_sound : Gen.opcodeTable.all entryOk = true := by decide +kernel

def allIdx : List (Option Idx) := [none, some .x, some .y, some .s]
def allSyntax : List Syntax :=
  [false, true].flatMap fun op => [false, true].flatMap fun imm =>
    [Bracket.none, .paren, .square].flatMap fun br => allIdx.flatMap fun i => allIdx.map fun o => ⟨op, imm, br, i, o⟩

theorem mem_allIdx (i : Option Idx) : i ∈ allIdx := by
  rcases i with _ | i
  · decide
  · cases i <;> decide

theorem mem_allSyntax (syn : Syntax) : syn ∈ allSyntax := by
  obtain ⟨op, imm, br, i, o⟩ := syn
  simp only [allSyntax, List.mem_flatMap, List.mem_map]
  exact ⟨op, by cases op <;> decide, imm, by cases imm <;> decide, br, by cases br <;> decide,
    i, mem_allIdx i, o, mem_allIdx o, rfl⟩

/-- what `syntax_sound` checks for one syntax record (a record without operand carries no other mark) -/
def syntaxOk (im : List (AddrMode × AddrMode)) (syn : Syntax) : Bool :=
  if !syn.operand && (syn.imm || syn.bracket != .none || syn.inner.isSome) then true else
  match modeOfSyntax im syn with
  | .error _ => true
  | .ok (mode, idx) =>
    (idx.isSome == isIndexedMode mode) && ((mode == .none) == !syn.operand) &&
    [false, true].all fun mx => [0, 1, 2, 3].all fun w =>
      shapeOfMode mx mode idx w == shapeOfMx mx syn w

theorem syntax_all : allSyntax.all (syntaxOk Gen.indexMap) = true := by decide +kernel

theorem syntax_sound_of {im : List (AddrMode × AddrMode)} (him : allSyntax.all (syntaxOk im) = true)
    (syn : Syntax) (mode : AddrMode) (idx : Option Idx)
    (hclean : syn.operand = false → syn.imm = false ∧ syn.bracket = .none ∧ syn.inner = none)
    (h : modeOfSyntax im syn = .ok (mode, idx)) (mx : Bool) (w : Nat) (hw : w ≤ 3) :
    shapeOfMode mx mode idx w = shapeOfMx mx syn w ∧ idx.isSome = isIndexedMode mode ∧
      (mode = .none ↔ syn.operand = false) := by
  have := List.all_eq_true.mp him syn (mem_allSyntax syn)
  unfold syntaxOk at this
  have hdirty : (!syn.operand && (syn.imm || syn.bracket != .none || syn.inner.isSome)) = false := by
    cases hop : syn.operand with
    | true => rfl
    | false => obtain ⟨a, b, c⟩ := hclean hop; rw [a, b, c]; rfl
  rw [hdirty, h] at this
  simp only [Bool.false_eq_true, ↓reduceIte, Bool.and_eq_true, beq_iff_eq, List.all_eq_true] at this
  obtain ⟨⟨h1, h2⟩, h3⟩ := this
  refine ⟨h3 mx (by cases mx <;> decide) w ?_, h1, by rw [← beq_iff_eq (a := mode), h2, Bool.not_eq_true']⟩
  show w ∈ List.range 4
  exact List.mem_range.mpr (Nat.lt_succ_of_le hw)

/-- **The parser's mode decision is the standard reading of the operand syntax.** -/
theorem syntax_sound (syn : Syntax) (mode : AddrMode) (idx : Option Idx)
    (hclean : syn.operand = false → syn.imm = false ∧ syn.bracket = .none ∧ syn.inner = none)
    (h : modeOfSyntax Gen.indexMap syn = .ok (mode, idx)) (mx : Bool) (w : Nat) (hw : w ≤ 3) :
    shapeOfMode mx mode idx w = shapeOfMx mx syn w ∧ idx.isSome = isIndexedMode mode ∧
      (mode = .none ↔ syn.operand = false) :=
  syntax_sound_of syntax_all syn mode idx hclean h mx w hw

theorem opcodeByte_lt {e : OpEntry} (hok : entryOk e = true) {w op : Nat} (h : opcodeByte e w = some op) :
    op < 256 := by
  have hmem : some op ∈ e.bytes := by
    unfold opcodeByte at h
    split at h
    · cases h
    · exact List.mem_of_getElem? (Option.join_eq_some_iff.mp h)
  unfold entryOk at hok
  simp only [Bool.and_eq_true] at hok
  exact Nat.lt_succ_of_le (of_decide_eq_true (List.all_eq_true.mp hok.1.2 _ hmem))

/-- the width `guess_value_size` chooses is 1, 2 or 3 and obeys the width rule, unless it is 3 for a value that does not
    fit three bytes (which `emit_value` refuses) -/
theorem guessSize_rule {sfx : Option Nat} {v : Int} (hsfx : sfx = none ∨ sfx = some 1 ∨ sfx = some 2 ∨ sfx = some 3)
    (hv : sfx = none → 0 ≤ v) :
    (guessSize sfx v = 1 ∨ guessSize sfx v = 2 ∨ guessSize sfx v = 3) ∧
      ((guessSize sfx v = 3 → v < 16777216) → widthRule sfx v (guessSize sfx v)) := by
  rcases hsfx with rfl | rfl | rfl | rfl
  · have h0 := hv rfl
    simp only [guessSize, widthRule, operandSize_nonneg v h0]
    split
    · exact ⟨.inl rfl, fun _ => ⟨h0, .inl ⟨rfl, ‹_›⟩⟩⟩
    · split
      · exact ⟨.inr (.inl rfl), fun _ => ⟨h0, .inr (.inl ⟨rfl, by omega, ‹_›⟩)⟩⟩
      · exact ⟨.inr (.inr rfl), fun h => ⟨h0, .inr (.inr ⟨rfl, by omega, h rfl⟩)⟩⟩
  · exact ⟨.inl rfl, fun _ => rfl⟩
  · exact ⟨.inr (.inl rfl), fun _ => rfl⟩
  · exact ⟨.inr (.inr rfl), fun _ => rfl⟩

/-- Soundness for every opcode table whose leaves agree with the 65c816 matrix (`entryOk`) and every index map
    whose mode decision is the standard reading of the syntax (`syntaxOk`): the regenerated tables enter only through
    these two checks. -/
theorem encode_sound {tbl : List OpEntry} {im : List (AddrMode × AddrMode)} (htbl : tbl.all entryOk = true)
    (him : allSyntax.all (syntaxOk im) = true)
    (mn : String) (syn : Syntax) (sfx : Option Nat) (v : Int) (bs : List Nat)
    (hclean : syn.operand = false → syn.imm = false ∧ syn.bracket = .none ∧ syn.inner = none)
    (hsfx : sfx = none ∨ sfx = some 1 ∨ sfx = some 2 ∨ sfx = some 3)
    (hv : sfx = none → 0 ≤ v)
    (h : encodeInstr tbl im mn syn sfx v = .ok bs) :
    ∃ w sh op, shapeOf mn syn w = some sh ∧ isaFor mn sh = some op ∧
      ((syn.operand = false ∧ w = 0 ∧ bs = [op]) ∨
       (syn.operand = true ∧ widthRule sfx v w ∧ bs = op :: leBytes w (v % ((256 ^ w : Nat) : Int)).toNat)) := by
  unfold encodeInstr at h
  split at h
  · cases h
  next mode idx hm =>
  split at h
  · cases h
  next e hf =>
  obtain ⟨hmem, rfl, rfl, hidx⟩ := findEmitter_spec hf
  have hok : entryOk e = true := List.all_eq_true.mp htbl e hmem
  have hsyn := syntax_sound_of him syn e.mode idx hclean hm
  obtain ⟨_, hsome, hnone⟩ := hsyn false 0 (Nat.zero_le 3)
  have hok' := hok
  unfold entryOk at hok'
  simp only [Bool.and_eq_true, beq_iff_eq] at hok'
  obtain ⟨⟨hix, _⟩, hkind⟩ := hok'
  -- the index the table leaf is keyed by is the index the syntax gave
  have hidx' : e.index = idx := hidx.elim (fun hn => by
    rw [hn, ← hsome] at hix
    cases idx with
    | none => exact hn
    | some _ => cases hix) id
  cases hk : e.kind with
  | relative => simp [emitEntry, hk] at h
  | implied =>
    simp only [hk, Bool.and_eq_true, beq_iff_eq] at hkind
    obtain ⟨⟨⟨hmode0, _⟩, _⟩, hisa⟩ := hkind
    obtain ⟨op, hb, hp⟩ := emitEntry_implied hk h
    rw [packB_nat (opcodeByte_lt hok hb)] at hp
    have hop0 : syn.operand = false := hnone.mp hmode0
    refine ⟨0, .imp, op, ?_, by rw [← hisa, hb], .inl ⟨hop0, rfl, (Option.some.inj hp).symm⟩⟩
    unfold shapeOf shapeOfMx; simp [hop0]
  | sized =>
    simp only [hk, Bool.and_eq_true, bne_iff_ne, ne_eq, decide_eq_true_eq, List.all_eq_true] at hkind
    obtain ⟨⟨hmodeN, _⟩, hbytes⟩ := hkind
    have hop1 : syn.operand = true := eq_true_of_ne_false (mt hnone.mpr hmodeN)
    rw [hop1, if_pos rfl] at h
    obtain ⟨op, b, vb, hb, hp, hev, rfl⟩ := emitEntry_sized hk h
    rw [packB_nat (opcodeByte_lt hok hb)] at hp
    obtain rfl := Option.some.inj hp
    obtain ⟨hwr, hrule⟩ := guessSize_rule (v := v) hsfx hv
    generalize guessSize sfx v = w at hb hev hwr hrule
    obtain ⟨hvb, hv3⟩ := emitValue_le w v vb hwr hev
    have hshape := hbytes w (by rcases hwr with rfl | rfl | rfl <;> decide)
    simp only [hb, beq_iff_eq] at hshape
    obtain ⟨sh, hsh, hisa⟩ := Option.bind_eq_some_iff.mp hshape
    rw [hidx', (hsyn (isMx e.mn) w (by omega)).1] at hsh
    exact ⟨w, sh, op, hsh, hisa, .inr ⟨hop1, hrule fun w3 => (hv3 w3).2, by rw [hvb]; rfl⟩⟩

/-- **C01 (soundness)**. An accepted instruction statement emits exactly: the 65c816 opcode of the
    mnemonic in the shape its operand syntax denotes at width `w`, then the operand value truncated to
    `w` bytes in little-endian order; `w` obeys the width rule (suffix, else smallest width holding the
    non-negative value); a lone mnemonic emits the single implied/accumulator opcode. -/
theorem C01_sound (mn : String) (syn : Syntax) (sfx : Option Nat) (v : Int) (bs : List Nat)
    (hclean : syn.operand = false → syn.imm = false ∧ syn.bracket = .none ∧ syn.inner = none)
    (hsfx : sfx = none ∨ sfx = some 1 ∨ sfx = some 2 ∨ sfx = some 3)
    (hv : sfx = none → 0 ≤ v)
    (h : encodeInstr Gen.opcodeTable Gen.indexMap mn syn sfx v = .ok bs) :
    ∃ w sh op, shapeOf mn syn w = some sh ∧ isaFor mn sh = some op ∧
      ((syn.operand = false ∧ w = 0 ∧ bs = [op]) ∨
       (syn.operand = true ∧ widthRule sfx v w ∧ bs = op :: leBytes w (v % ((256 ^ w : Nat) : Int)).toNat)) :=
  encode_sound table_sound syntax_all mn syn sfx v bs hclean hsfx hv h

/-- **C01 (rejection)**: a mnemonic / operand-shape / width combination the 65c816 does not define is
    rejected (contrapositive of `C01_sound`). -/
theorem C01_rejects (mn : String) (syn : Syntax) (sfx : Option Nat) (v : Int)
    (hclean : syn.operand = false → syn.imm = false ∧ syn.bracket = .none ∧ syn.inner = none)
    (hsfx : sfx = none ∨ sfx = some 1 ∨ sfx = some 2 ∨ sfx = some 3) (hv : sfx = none → 0 ≤ v)
    (hundef : ∀ w sh, shapeOf mn syn w = some sh → isaFor mn sh = none) :
    ∃ err, encodeInstr Gen.opcodeTable Gen.indexMap mn syn sfx v = .error err := by
  cases h : encodeInstr Gen.opcodeTable Gen.indexMap mn syn sfx v with
  | error e => exact ⟨e, rfl⟩
  | ok bs =>
    obtain ⟨w, sh, op, h1, h2, _⟩ := C01_sound mn syn sfx v bs hclean hsfx hv h
    rw [hundef w sh h1] at h2; cases h2

example : (encodeInstr Gen.opcodeTable Gen.indexMap "lda" ⟨true, true, .none, none, none⟩ none 0x1234).toOption
    = some [0xA9, 0x34, 0x12] := by decide +kernel
example : (encodeInstr Gen.opcodeTable Gen.indexMap "ora" ⟨true, true, .none, none, none⟩ none 0x1234).toOption
    = some [0x09, 0x34, 0x12] := by decide +kernel
example : (encodeInstr Gen.opcodeTable Gen.indexMap "lda" ⟨true, false, .paren, some .s, some .y⟩ none 0x10).toOption
    = some [0xB3, 0x10] := by decide +kernel
example : (encodeInstr Gen.opcodeTable Gen.indexMap "lda" ⟨true, false, .paren, some .x, some .y⟩ none 0x10).toOption
    = none := by decide +kernel
example : (encodeInstr Gen.opcodeTable Gen.indexMap "jmp" ⟨true, false, .none, none, none⟩ (some 3) 0x123456).toOption
    = some [0x5C, 0x56, 0x34, 0x12] := by decide +kernel
example : (encodeInstr Gen.opcodeTable Gen.indexMap "inc" ⟨false, false, .none, none, none⟩ none 0).toOption
    = some [0x1A] := by decide +kernel
example : (encodeInstr Gen.opcodeTable Gen.indexMap "sta" ⟨true, false, .none, none, some .x⟩ (some 3) (-1)).toOption
    = none := by decide +kernel

/-- the table still has, for a supported combination, a leaf of the right kind with that opcode at that width (that
    the opcode of a branch is the ISA's is checked here; for the other kinds it follows, see `supported_isa`) -/
def supportedOk (tbl : List OpEntry) (im : List (AddrMode × AddrMode)) (s : Supported) : Bool :=
  match modeOfSyntax im s.syn with
  | .error _ => false
  | .ok (mode, idx) =>
    match findEmitter tbl s.mn mode idx with
    | .error _ => false
    | .ok e =>
      if s.relative then e.kind == .relative && opcodeByte e 1 == some s.op && isa s.mn .rel == some s.op
      else if s.w = 0 then e.kind == .implied && opcodeByte e 1 == some s.op && !s.syn.operand
      else e.kind == .sized && opcodeByte e s.w == some s.op && s.syn.operand && decide (1 ≤ s.w ∧ s.w ≤ 3)

theorem supported_all : Spec.supported.all (supportedOk Gen.opcodeTable Gen.indexMap) = true := by decide +kernel

theorem supported_count : Spec.supported.length = 227 := by decide +kernel

/-- what the check says of a combination with an operand that is not a branch -/
theorem supportedOk_sized {tbl : List OpEntry} {im : List (AddrMode × AddrMode)} {s : Supported}
    (hok : supportedOk tbl im s = true) (hrel : s.relative = false) (hw : s.w ≠ 0) :
    ∃ mode idx e, modeOfSyntax im s.syn = .ok (mode, idx) ∧ findEmitter tbl s.mn mode idx = .ok e ∧ e.kind = .sized ∧
      opcodeByte e s.w = some s.op ∧ s.syn.operand = true ∧ (s.w = 1 ∨ s.w = 2 ∨ s.w = 3) := by
  unfold supportedOk at hok
  split at hok
  · cases hok
  next mode idx hm =>
  split at hok
  · cases hok
  next e hf =>
  simp only [hrel, Bool.false_eq_true, ↓reduceIte, hw, Bool.and_eq_true, beq_iff_eq, decide_eq_true_eq] at hok
  exact ⟨mode, idx, e, hm, hf, hok.1.1.1, hok.1.1.2, hok.1.2, by omega⟩

theorem encode_supported {tbl : List OpEntry} {im : List (AddrMode × AddrMode)} (htbl : tbl.all entryOk = true)
    (s : Supported) (hok : supportedOk tbl im s = true) (hrel : s.relative = false) (hw : s.w ≠ 0)
    (v : Int) (hfit : s.w = 3 → 0 ≤ v ∧ v < 16777216) :
    encodeInstr tbl im s.mn s.syn (some s.w) v
      = .ok (s.op :: leBytes s.w (v % ((256 ^ s.w : Nat) : Int)).toNat) := by
  obtain ⟨mode, idx, e, hm, hf, hk, hb, hop, hw13⟩ := supportedOk_sized hok hrel hw
  have hp := packB_nat (opcodeByte_lt (List.all_eq_true.mp htbl e (findEmitter_spec hf).1) hb)
  have hev := (emitValue_iff s.w v _ hw13).mpr ⟨rfl, hfit⟩
  simp [encodeInstr, hm, hf, emitEntry, hk, hop, guessSize, hb, hp, hev]

/-- the opcode recorded for such a combination is the ISA's for the shape its syntax denotes at its width: it is the
    byte the table holds, and the table agrees with the matrix -/
theorem supported_isa {tbl : List OpEntry} {im : List (AddrMode × AddrMode)} (htbl : tbl.all entryOk = true)
    (him : allSyntax.all (syntaxOk im) = true) (s : Supported) (hok : supportedOk tbl im s = true)
    (hrel : s.relative = false) (hw : s.w ≠ 0) : (shapeOf s.mn s.syn s.w).bind (isaFor s.mn) = some s.op := by
  obtain ⟨_, _, _, _, _, _, _, hop, hw13⟩ := supportedOk_sized hok hrel hw
  obtain ⟨w, sh, op, hsh, hisa, hcase⟩ := encode_sound htbl him s.mn s.syn (some s.w) 0 _
    (fun h => by rw [hop] at h; cases h) (by rcases hw13 with h | h | h <;> simp [h]) nofun
    (encode_supported htbl s hok hrel hw 0 fun _ => ⟨Int.le_refl 0, by decide⟩)
  rcases hcase with ⟨h, _⟩ | ⟨_, rfl, hbs⟩
  · rw [hop] at h; cases h
  · rw [hsh, Option.bind_some, hisa, (List.cons.inj hbs).1]

/-- **C01 (supported set kept)**: every combination of the frozen supported set still assembles, to
    the ISA opcode followed by the truncated little-endian value, for every operand value that fits
    the width (any value for 1 and 2 bytes with a suffix; 0 … 2^24−1 for 3 bytes). -/
theorem supported_kept (s : Supported) (hs : s ∈ Spec.supported) (hrel : s.relative = false) (hw : s.w ≠ 0)
    (v : Int) (hfit : s.w = 3 → 0 ≤ v ∧ v < 16777216) :
    encodeInstr Gen.opcodeTable Gen.indexMap s.mn s.syn (some s.w) v
      = .ok (s.op :: leBytes s.w (v % ((256 ^ s.w : Nat) : Int)).toNat) :=
  encode_supported table_sound s (List.all_eq_true.mp supported_all s hs) hrel hw v hfit

open ParseOp Classify in
/-- **the parser reads every accepted shape as the table says** (see `Proofs/ParseOpcode.lean`): for every parser
    configuration, expression tree `e`, operand shape `syn` the decision table accepts, optional size suffix and
    parser state whose tokens from the current position on spell
    `mnemonic [.size] shape(e) [,index]`, `parse_opcode` returns the instruction with the mode and index register of
    `modeOfSyntax`, the written size, and the node list of `e` as operand, and stops right behind it. -/
theorem C01_parse_shape (cfg : ParseCfg) (syn : Syntax) (e : Expr) (fuel : Nat) (st : PState)
    (ks : Nat) (size : Option String)
    (hopc : (tokAt st st.pos).ty = .OPCODE) (hoperand : syn.operand = true)
    (hsize : (ks = 1 ∧ (tokAt st (st.pos + 1)).ty = .OPCODE_SIZE ∧ size = some (asciiLower (tokAt st (st.pos + 1)).val)) ∨
             (ks = 0 ∧ (tokAt st (st.pos + 1)).ty ≠ .OPCODE_SIZE ∧ size = none))
    (hsp : Spells st (st.pos + (1 + ks)) (operandPieces syn (printNodes e) ++ idxPiece syn.outer))
    (hfollow : (tokAt st (st.pos + (1 + ks) + pwidth (operandPieces syn (printNodes e) ++ idxPiece syn.outer))).ty ≠ .OPERATOR)
    (hnoidx : syn.outer = none →
      (tokAt st (st.pos + (1 + ks) + pwidth (operandPieces syn (printNodes e)))).ty ≠ .ADDRESSING_MODE_INDEX)
    (hplain : syn.imm = false → syn.bracket = .none → (tokAt st (st.pos + (1 + ks))).ty ≠ .LPAREN)
    (hfuel : (printNodes e).length + 1 < fuel)
    (mode : AddrMode) (idx : Option Idx) (hmode : modeOfSyntax cfg.indexMap syn = .ok (mode, idx)) :
    ∃ first, parseOpcode cfg (fuel + 1) st =
      .ok (.opcode mode (tokAt st st.pos).val (sizeOfSuffix size) (some ⟨printNodes e, first⟩) idx (tokAt st st.pos),
           adv st (1 + ks + pwidth (operandPieces syn (printNodes e) ++ idxPiece syn.outer))) :=
  parseOpcode_shape cfg syn e fuel st ks size hopc hoperand hsize hsp hfollow hnoidx hplain hfuel mode idx hmode

open ParseOp Classify in
/-- a mnemonic standing alone (no `#`, bracket or index after it) is the implied / accumulator form -/
theorem C01_parse_naked (cfg : ParseCfg) (fuel : Nat) (st : PState)
    (hopc : (tokAt st st.pos).ty = .OPCODE_NAKED)
    (h0 : (tokAt st (st.pos + 1)).ty ≠ .OPCODE_SIZE) (h1 : (tokAt st (st.pos + 1)).ty ≠ .SHARP)
    (h2 : (tokAt st (st.pos + 1)).ty ≠ .LPAREN) (h3 : (tokAt st (st.pos + 1)).ty ≠ .LBRAKET)
    (h4 : (tokAt st (st.pos + 1)).ty ≠ .ADDRESSING_MODE_INDEX) :
    parseOpcode cfg (fuel + 1 + 1) st =
      .ok (.opcode .none (tokAt st st.pos).val none none none (tokAt st st.pos), adv st 1) ∧
    modeOfSyntax cfg.indexMap ⟨false, false, .none, none, none⟩ = .ok (.none, none) := by
  refine ⟨?_, rfl⟩
  have hop := parseOperand_none cfg fuel .none (tokAt st st.pos) st (st.pos + 1) (by rw [hopc]; decide) h1 h2 h3
  exact parseOpcode_spec st st.pos 0 none (.inr ⟨rfl, h0, rfl⟩) .none none 0 (by rw [hopc]; exact hop) .none none 0
    (.inr ⟨rfl, h4, rfl, rfl⟩)

/-- **the emission pass encodes as `encodeInstr` does**: for an instruction node whose mode and index are the
    decision table's reading of its written shape, whatever the emission pass emits (for the non-branch kinds) is what
    `encodeInstr` gives for the mnemonic, shape, suffix and operand value. -/
theorem C01_emit_is_encode (env : Env) (im : List (AddrMode × AddrMode)) (mn : String) (syn : Syntax) (size : Option Nat)
    (mode : AddrMode) (idx : Option Idx) (hm : modeOfSyntax im syn = .ok (mode, idx)) (hoperand : syn.operand = true)
    (ve : PExpr) (info : Tok) (r r' : Resolver) (v : Int) (hv : getValue env r ve info = .ok v) (bs : List Nat)
    (hrel : ∀ e, findEmitter env.opcodes mn mode idx = .ok e → e.kind ≠ .relative)
    (h : emitNode env (.opcode mn size mode idx (some ve) info) r = .ok (r', bs)) :
    encodeInstr env.opcodes im mn syn size v = .ok bs := by
  obtain ⟨_, e, he, hcase⟩ := emitNode_opcode h
  have hf : findEmitter env.opcodes mn mode idx = .ok e := by
    unfold opcodeEmitter at he
    split at he
    · cases he
    · exact he
  unfold encodeInstr
  simp only [hm, hf, hoperand, ↓reduceIte]
  rcases hcase with ⟨hk, hb⟩ | ⟨hk, _⟩ | ⟨_, _, _, hve, hv', hb⟩
  · -- the implied kind does not look at the operand
    rw [← hb]; simp only [emitEntry, hk]
  · exact absurd hk (hrel e hf)
  · cases hve; rw [hv] at hv'; cases hv'; exact hb

/-- **instruction nodes encode as the ISA defines**: `C01_sound` read on the emission pass — whatever bytes are
    emitted for an instruction node (non-branch) whose mode / index are the table's reading of shape `syn` are the
    ISA opcode for that mnemonic in the shape `syn` denotes at the ruled width, followed by the truncated operand. -/
theorem C01_node_sound (prec : PrecTable) (mn : String) (syn : Syntax) (size : Option Nat)
    (mode : AddrMode) (idx : Option Idx) (hm : modeOfSyntax Gen.indexMap syn = .ok (mode, idx)) (hoperand : syn.operand = true)
    (ve : PExpr) (info : Tok) (r r' : Resolver) (v : Int) (hv : getValue ⟨prec, Gen.opcodeTable⟩ r ve info = .ok v) (bs : List Nat)
    (hrel : ∀ e, findEmitter Gen.opcodeTable mn mode idx = .ok e → e.kind ≠ .relative)
    (hsfx : size = none ∨ size = some 1 ∨ size = some 2 ∨ size = some 3) (hpos : size = none → 0 ≤ v)
    (h : emitNode ⟨prec, Gen.opcodeTable⟩ (.opcode mn size mode idx (some ve) info) r = .ok (r', bs)) :
    ∃ w sh op, shapeOf mn syn w = some sh ∧ isaFor mn sh = some op ∧ widthRule size v w ∧
      bs = op :: leBytes w (v % ((256 ^ w : Nat) : Int)).toNat := by
  have henc := C01_emit_is_encode ⟨prec, Gen.opcodeTable⟩ Gen.indexMap mn syn size mode idx hm hoperand ve info r r' v hv bs hrel h
  obtain ⟨w, sh, op, h1, h2, h3⟩ := C01_sound mn syn size v bs (fun hf => by rw [hoperand] at hf; cases hf) hsfx hpos henc
  rcases h3 with ⟨hf, _⟩ | ⟨_, hw, hb⟩
  · rw [hoperand] at hf; cases hf
  · exact ⟨w, sh, op, h1, h2, hw, hb⟩

/-! non-vacuity: `lda.w (0x10,s),y` as the scanner tokenises it meets the hypotheses of `C01_parse_shape`, and the
    decision table reads that shape as stack-relative indirect indexed -/
section
open ParseOp Classify
private def tk (ty : TokTy) (v : String) : Tok := { eofTok with ty := ty, val := v }
private def stEx : PState :=
  { (default : PState) with
    toks := #[tk .OPCODE "lda", tk .OPCODE_SIZE "W", tk .LPAREN "(", tk .NUMBER "0x10", tk .ADDRESSING_MODE_INDEX "s",
              tk .RPAREN ")", tk .ADDRESSING_MODE_INDEX "Y", tk .EOF ""], pos := 0 }
private def synEx : Syntax := ⟨true, false, .paren, some .s, some .y⟩
private def eEx : Expr := .num ⟨.hex, [(1, false), (0, false)]⟩

example : ∃ first, parseOpcode Ops.genParseCfg 8 stEx =
    .ok (.opcode .stack_indexed_indirect_indexed "lda" (some 2) (some ⟨printNodes eEx, first⟩) (some .y) (tk .OPCODE "lda"),
         adv stEx 7) := by
  have hm : modeOfSyntax Ops.genParseCfg.indexMap synEx = .ok (.stack_indexed_indirect_indexed, some .y) := by rfl
  have hsp : Spells stEx (stEx.pos + (1 + 1)) (operandPieces synEx (printNodes eEx) ++ idxPiece synEx.outer) := by
    refine ⟨by decide +kernel, ⟨?_, by decide +kernel, by decide +kernel, by decide +kernel, by decide +kernel, by decide +kernel, trivial⟩⟩
    intro i hi
    have hi' : i < 1 := hi
    match i, hi' with
    | 0, _ => decide +kernel +revert
  have := C01_parse_shape Ops.genParseCfg synEx eEx 7 stEx 1 (some "w") (by decide +kernel) rfl
    (Or.inl ⟨rfl, by decide +kernel, by decide +kernel⟩) hsp (by decide +kernel) (fun h => by cases h) (fun _ h => by cases h)
    (by decide +kernel) _ _ hm
  exact this
end

end A816.C01
