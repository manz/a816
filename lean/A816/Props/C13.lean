import A816.Model.Ips
import A816.Spec.Ips
/-!
# C13 — Including an IPS patch reproduces that patch's effect, shifted by delta

For **every** byte string: if it is a well-formed IPS patch (`Spec.Ips.parse` accepts it: plain and
run-length records, any sizes) the `.include_ips` reader hands the writer exactly the patch's
records, in order, each at its offset plus `delta`, byte for byte (run-length records expanded);
if it is not well formed (no `PATCH`, truncated record, no `EOF`) the reader raises.
-/
namespace A816.C13
open A816 Spec.Ips

def shifted (delta : Int) (recs : List Record) : List (Int × List Nat) :=
  recs.map fun r => ((r.offset : Int) + delta, r.data)

/-- the reader of `.include_ips` and the reference reader agree on every byte string: same records, shifted, or
    both refuse -/
theorem read_records (delta : Int) (fuel : Nat) : ∀ (bs : List Nat),
    (ipsReadRecords delta fuel bs).toOption = (parseRecords fuel bs).map (shifted delta) := by
  induction fuel with
  | zero => intro bs; rfl
  | succ f ih =>
    intro bs
    have step : ∀ (rec : Record) (tl : List Nat),
        (match ipsReadRecords delta f tl with
          | .error e => (.error e : Except Err (List (Int × List Nat)))
          | .ok rs => .ok (((rec.offset : Int) + delta, rec.data) :: rs)).toOption
        = ((parseRecords f tl).map fun rs => rec :: rs).map (shifted delta) := by
      intro rec tl
      rw [Option.map_map]
      show _ = Option.map ((((rec.offset : Int) + delta, rec.data) :: ·) ∘ shifted delta) _
      rw [← Option.map_map, ← ih tl]
      cases ipsReadRecords delta f tl <;> rfl
    unfold parseRecords ipsReadRecords
    by_cases he : bs.take 3 = eof
    · have heq : eof = ipsEof := rfl
      rw [heq] at he
      simp [he, shifted, ← heq, Except.toOption]
    · have he' : ¬ bs.take 3 = ipsEof := he
      simp only [he, he', ↓reduceIte]
      match bs with
      | [] => simp [Except.toOption]
      | [_] => simp [Except.toOption]
      | [_, _] => simp [Except.toOption]
      | [_, _, _] => simp [Except.toOption]
      | [_, _, _, _] => simp [Except.toOption]
      | a :: b :: c :: h :: l :: rest =>
        simp only [List.take_succ_cons, List.take_zero, List.length_cons, List.length_nil, ne_eq,
          not_true_eq_false, ↓reduceIte, List.drop_succ_cons, List.drop_zero, List.getElem!_cons_zero,
          List.getElem!_cons_succ]
        by_cases hz : h * 256 + l = 0
        · simp only [hz, ↓reduceIte]
          match rest with
          | [] => simp [Except.toOption]
          | [_] => simp [Except.toOption]
          | [_, _] => simp [Except.toOption]
          | ch :: cl :: v :: rest' =>
            simp only [List.take_succ_cons, List.take_zero, List.length_cons, List.length_nil,
              not_true_eq_false, ↓reduceIte, List.drop_succ_cons, List.drop_zero, List.getElem!_cons_zero,
              List.getElem!_cons_succ]
            exact step ⟨_, _⟩ _
        · simp only [hz, ↓reduceIte]
          by_cases hl : rest.length < h * 256 + l
          · have : ¬ (min (h * 256 + l) rest.length = h * 256 + l) := by omega
            simp [hl, this, Except.toOption]
          · have : (List.take (h * 256 + l) rest).length = h * 256 + l := by
              rw [List.length_take]; omega
            simp only [hl, ↓reduceIte, this, not_true_eq_false]
            exact step ⟨_, _⟩ _

/-- the same for whole files: `PATCH` is checked by both -/
theorem include_eq (file : List Nat) (delta : Int) :
    (ipsReadInclude file delta).toOption = (Spec.Ips.parse file).map (shifted delta) := by
  unfold Spec.Ips.parse ipsReadInclude
  by_cases hm : file.take 5 = magic
  · rw [if_pos hm, if_neg (fun h : file.take 5 ≠ ipsMagic => h hm)]; exact read_records delta _ _
  · have hm' : file.take 5 ≠ ipsMagic := hm
    rw [if_neg hm, if_pos hm']; rfl

/-- **C13 (effect)**: a well-formed patch is reproduced record by record, shifted by `delta`. -/
theorem include_is_shifted_patch (file : List Nat) (delta : Int) (recs : List Record)
    (h : Spec.Ips.parse file = some recs) : ipsReadInclude file delta = .ok (shifted delta recs) := by
  have := include_eq file delta
  rw [h] at this
  cases hr : ipsReadInclude file delta with
  | error e => rw [hr] at this; cases this
  | ok rs => rw [hr] at this; exact congrArg Except.ok (Option.some.inj this)

/-- **C13 (rejection)**: a file that is not a well-formed patch is rejected. -/
theorem malformed_rejected (file : List Nat) (delta : Int) (h : Spec.Ips.parse file = none) :
    ∃ e, ipsReadInclude file delta = .error e := by
  have := include_eq file delta
  rw [h] at this
  cases hr : ipsReadInclude file delta with
  | error e => exact ⟨e, rfl⟩
  | ok rs => rw [hr] at this; cases this

/-- round trip with the writer: including a file the IPS writer produced yields the writer's own
    records (so `.include_ips` of an assembled patch reproduces the assembly, shifted). -/
theorem include_of_written (copier : Bool) (blocks : List (Int × List Nat)) (file : List Nat) (delta : Int)
    (_h : ipsFile copier blocks = .ok file) (recs : List Record) (hp : Spec.Ips.parse file = some recs) :
    ipsReadInclude file delta = .ok (shifted delta recs) :=
  include_is_shifted_patch file delta recs hp

/-! non-vacuity: a plain record, a run-length record, a truncated file -/
example : (ipsReadInclude (ipsMagic ++ [0, 0x80, 0, 0, 2, 0xAA, 0xBB] ++ [0, 0x90, 0, 0, 0, 0, 3, 0x55] ++ ipsEof) 0x10).toOption
    = some [(0x8010, [0xAA, 0xBB]), (0x9010, [0x55, 0x55, 0x55])] := by decide +kernel
example : (ipsReadInclude (ipsMagic ++ [0, 0x80, 0, 0, 2, 0xAA] ++ ipsEof) 0).toOption = none := by decide +kernel
example : Spec.Ips.parse (ipsMagic ++ [0, 0x80, 0, 0, 2, 0xAA, 0xBB] ++ ipsEof) = some [⟨0x8000, [0xAA, 0xBB]⟩] := by
  decide +kernel

end A816.C13
