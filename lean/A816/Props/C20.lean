import A816.Props.C04
import A816.Model.Legacy
import A816.Proofs.Bytes
/-!
# C20 — Legacy address conversions agree with the assembler's mapping

For every ROM offset in range (no sampling: the proofs are arithmetic, the bus facts come from the
regenerated `Gen.lowRomBus` / `Gen.highRomBus` through `C04.low_bank` / `C04.high_bank`).
-/
namespace A816.C20
open A816 Spec

theorem romToSnes_low (off : Nat) :
    romToSnes off .low_rom = Spec.address ⟨0x00, 0x6F, 0x8000⟩ off := by
  simp only [romToSnes, Spec.address, windowStart]
  rw [shl16_or _ _ (by omega)]; omega
theorem romToSnes_low2 (off : Nat) :
    romToSnes off .low_rom_2 = Spec.address ⟨0x80, 0xCF, 0x8000⟩ off := by
  simp only [romToSnes, Spec.address, windowStart]
  rw [shl16_or _ _ (by omega)]; omega
theorem romToSnes_high (off : Nat) :
    romToSnes off .high_rom = Spec.address ⟨0xC0, 0xFF, 0x10000⟩ off := by
  simp only [romToSnes, Spec.address, windowStart]; omega

/-- generic step: the textbook address of `off` in a ROM range is looked up to that range's mapping ⇒ its
    mapped file offset is `off`. -/
theorem phys_of_address (bus : BusCfg) (m : Mapping) (wf : m.RomWF) (off : Nat)
    (hlk : bus.mappingForBank (m.lo + off / m.mask) = some m) :
    busPhys bus (Spec.address m.range off) = some (some (off : Int)) := by
  have hb : Spec.address m.range off / 65536 = m.lo + off / m.mask := (Spec.offset_address m.range wf.2 off).2.1
  unfold busPhys
  rw [Address.mk?_nat (by rw [shr16, hb]; exact hlk)]
  exact congrArg some (m.physicalAddress_address wf off)

/-- `snes_to_rom` inverts the textbook LoROM address: for the range from bank 0x00 below bank 0x80, for the range from
    bank 0x80 below bank 0xC0 (from there on `snes_to_rom` reads an address as HiROM) -/
theorem snesToRom_address (first last off : Nat)
    (h : first = 0x00 ∧ off < 0x400000 ∨ first = 0x80 ∧ off < 0x200000) :
    snesToRom (Spec.address ⟨first, last, 0x8000⟩ off) = off := by
  simp only [snesToRom, Spec.address, windowStart, shr16,
    show ∀ a : Nat, a &&& 0x7FFF = a % 0x8000 from fun a => Nat.and_two_pow_sub_one_eq_mod a 15]
  rcases h with ⟨rfl, h⟩ | ⟨rfl, h⟩
  all_goals
    split
    · omega
    · split <;> omega

/-- LoROM (banks from 0x00): `rom_to_snes` gives the address whose mapped file offset is `off`,
    and `snes_to_rom` maps it back — for every offset of the 3.5 MiB the LoROM bus covers. -/
theorem low (off : Nat) (h : off < 0x380000) :
    busPhys Gen.lowRomBus (romToSnes off .low_rom) = some (some (off : Int)) ∧
    snesToRom (romToSnes off .low_rom) = off ∧ romToSnes off .low_rom / 0x10000 = off / 0x8000 := by
  rw [romToSnes_low]
  have hb : off / 0x8000 ≤ 0x6F := by omega
  refine ⟨?_, snesToRom_address _ _ off (.inl ⟨rfl, by omega⟩), ?_⟩
  · exact phys_of_address Gen.lowRomBus ⟨0x00, 0x6F, 0x8000, false⟩ (by decide) off
      (by rw [Nat.zero_add, C04.low_bank]; simp [C04.expectLow, hb])
  · exact ((Spec.offset_address _ (.inl rfl) off).2.1).trans (Nat.zero_add _)

/-- second LoROM variant (banks from 0x80): mapped offset for every offset the mirror range covers;
    `snes_to_rom` maps it back below 0x200000 (above, its banks coincide with HiROM's). -/
theorem low2 (off : Nat) (h : off < 0x280000) :
    busPhys Gen.lowRomBus (romToSnes off .low_rom_2) = some (some (off : Int)) ∧
    romToSnes off .low_rom_2 / 0x10000 = 0x80 + off / 0x8000 ∧
    (off < 0x200000 → snesToRom (romToSnes off .low_rom_2) = off) := by
  rw [romToSnes_low2]
  refine ⟨?_, (Spec.offset_address _ (.inl rfl) off).2.1, fun h2 => snesToRom_address _ _ off (.inr ⟨rfl, h2⟩)⟩
  have hb : 0x80 + off / 0x8000 ≤ 0xCF := by omega
  have h1 : ¬ (0x80 + off / 0x8000 ≤ 0x6F) := by omega
  have h2 : ¬ (0x7E ≤ 0x80 + off / 0x8000 ∧ 0x80 + off / 0x8000 ≤ 0x7F) := by omega
  exact phys_of_address Gen.lowRomBus ⟨0x80, 0xCF, 0x8000, false⟩ (by decide) off
    (by show Gen.lowRomBus.mappingForBank (0x80 + off / 0x8000) = _
        rw [C04.low_bank]; simp [C04.expectLow, h1, h2, hb])

/-- HiROM (banks from 0xC0): the whole 4 MiB space. -/
theorem high (off : Nat) (h : off < 0x400000) :
    busPhys Gen.highRomBus (romToSnes off .high_rom) = some (some (off : Int)) ∧
    snesToRom (romToSnes off .high_rom) = off ∧ romToSnes off .high_rom / 0x10000 = 0xC0 + off / 0x10000 := by
  refine ⟨?_, ?_, ?_⟩
  · rw [romToSnes_high]
    have hb : 0xC0 + off / 0x10000 ≤ 0xFF := by omega
    have h1 : ¬ (0x40 ≤ 0xC0 + off / 0x10000 ∧ 0xC0 + off / 0x10000 ≤ 0x7D) := by omega
    have h2 : ¬ (0x7E ≤ 0xC0 + off / 0x10000 ∧ 0xC0 + off / 0x10000 ≤ 0x7F) := by omega
    exact phys_of_address Gen.highRomBus ⟨0xC0, 0xFF, 0x10000, false⟩ (by decide) off
      (by show Gen.highRomBus.mappingForBank (0xC0 + off / 0x10000) = _
          rw [C04.high_bank]; simp [C04.expectHigh, h1, h2, hb])
  · simp only [snesToRom, romToSnes, ge_iff_le, Nat.le_add_left, ↓reduceIte, Nat.add_sub_cancel]
  · simp only [romToSnes]; omega

/-- `long_low_rom_pointer(base)(p)` is the little-endian 3-byte LoROM address of offset `base + p`. -/
theorem long_ptr (base p : Nat) (h : base + p < 0x380000) :
    longLowRomPointer base p = some (leBytes 3 (romToSnes (p + base) .low_rom)) := by
  unfold longLowRomPointer
  have hb : romToSnes (p + base) .low_rom < 0x700000 := by
    rw [romToSnes_low]; simp only [Spec.address, windowStart]; omega
  generalize romToSnes (p + base) .low_rom = a at *
  simp only [show (0xFFFF : Nat) = 2 ^ 16 - 1 from rfl, Nat.and_two_pow_sub_one_eq_mod, shr16, Int.natCast_emod,
    Int.natCast_ediv]
  exact packHBle_eq_some.mpr ⟨a, by omega, rfl, rfl⟩

/-- `base_relative_16bits_pointer_formula(base)` decodes a little-endian 16-bit value and adds base. -/
theorem rel16 (base : Int) (lo hi : Nat) (rest : List Nat) :
    baseRelative16 base (lo :: hi :: rest) = some ((lo : Int) + 256 * (hi : Int) + base) := by
  simp only [baseRelative16, Nat.shiftLeft_eq, Option.some.injEq]; omega

/-! non-vacuity (the repository's own test vectors) -/
example : romToSnes 0x7FFF .low_rom = 0x00FFFF := by decide +kernel
example : romToSnes 0x8000 .low_rom_2 = 0x818000 := by decide +kernel
example : snesToRom 0x818000 = 0x8000 := by decide +kernel
example : longLowRomPointer 0x08C000 12 = some [0x0C, 0xC0, 0x11] := by decide +kernel
example : baseRelative16 0x10000 [0x10, 0x20] = some 0x12010 := by decide +kernel

end A816.C20
