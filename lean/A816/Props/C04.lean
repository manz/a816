import A816.Proofs.Mapping
import A816.Gen.Tables
/-!
# C04 — Address mapping: offsets, mirrors and address advance obey the bus laws

The arithmetic of `mapping.py` is in `Proofs/Mapping.lean`; the helpers here are about buses (`busWF_of_runs`, `add_rom_eq`).
All statements are for every address and every increment (no bound); the built-in buses are the
ones regenerated from `/repo` (`Gen.lowRomBus`, `Gen.highRomBus`): the kernel compares their lookup dicts
with the bank ranges `a816/symbols.py` declares (`low_lookup`, `high_lookup`) and evaluates their mappings.
-/
namespace A816.C04
open A816 Spec

/-- Every bank a bus looks up belongs to the bank range of the mapping it is looked up to. -/
def BusWF (bus : BusCfg) : Prop :=
  ∀ b m, bus.mappingForBank b = some m → m.lo ≤ b ∧ b ≤ m.hi

/-- a bus whose lookup dict is a list of bank runs, each inside the bank range of its mapping -/
theorem busWF_of_runs {bus : BusCfg} {rs : List (String × Nat × Nat)} (h : bus.lookup = bankRuns rs)
    (hall : ∀ r ∈ rs, ∀ m, alookup r.1 bus.mappings = some m → m.lo ≤ r.2.1 ∧ r.2.2 ≤ m.hi) : BusWF bus := by
  intro b m hm
  unfold BusCfg.mappingForBank at hm
  rw [h] at hm
  split at hm
  · cases hm
  · obtain ⟨lo, hi, hr, hb⟩ := alookup_bankRuns_some ‹_›
    have : m.lo ≤ lo ∧ hi ≤ m.hi := hall _ hr m hm
    omega

/-- A ROM logical address translates to `(bank − first bank of its range) × bank size + position in the window`. -/
theorem phys_formula (bus : BusCfg) (wf : BusWF bus) (v : Int) (A : Address)
    (hmk : Address.mk? bus v = some A) (hrom : A.mapping.RomWF) (hwin : inWindow A.mapping.mask A.logical) :
    A.physical = some ((Spec.offset A.mapping.range A.logical : Nat) : Int) := by
  obtain ⟨hwf, hbus, _⟩ := Address.mk?_wf hmk
  unfold Address.WF at hwf
  rw [hbus, shr16] at hwf
  have := (wf _ _ hwf).1
  exact Mapping.physicalAddress_eq_offset _ hrom _ this hwin

/-- RAM banks have no file offset. -/
theorem ram_none (A : Address) (h : A.mapping.ram = true) : A.physical = none :=
  Mapping.physicalAddress_ram _ h _

/-- Unmapped banks (and negative addresses) are rejected. -/
theorem unmapped_rejected (bus : BusCfg) (v : Int)
    (h : v < 0 ∨ bus.mappingForBank (v.toNat >>> 16) = none) : Address.mk? bus v = none := by
  unfold Address.mk?
  rcases h with h | h
  · simp [h]
  · split
    · rfl
    · simp [h]

/-- A mirror bank translates to the same offset as its primary bank: the offset depends only on the
    distance of the bank from the first bank of its own range. -/
theorem mirror_same (p q : Mapping) (hp : p.RomWF) (hq : q.RomWF) (hmask : p.mask = q.mask)
    (a : Nat) (hlo : p.lo ≤ bankOf a) (hwin : inWindow p.mask a) :
    q.physicalAddress (a - p.lo * 0x10000 + q.lo * 0x10000) = p.physicalAddress a := by
  have hlo' : p.lo * 0x10000 ≤ a := by unfold bankOf at hlo; omega
  rw [Mapping.physicalAddress_eq_offset p hp a hlo hwin,
      Mapping.physicalAddress_eq_offset q hq]
  · congr 2
    unfold Spec.offset Mapping.range bankOf inBank windowStart at *
    simp only [hmask]
    have e1 : (a - p.lo * 65536 + q.lo * 65536) / 65536 - q.lo = a / 65536 - p.lo := by omega
    have e2 : (a - p.lo * 65536 + q.lo * 65536) % 65536 = a % 65536 := by omega
    rw [e1, e2]
  · unfold bankOf at *; omega
  · unfold inWindow inBank windowStart at *; rw [← hmask]; omega

/-- the address object `Address.__add__` builds for a ROM address with file offset `p` -/
theorem add_rom_eq (A : Address) (hA : A.WF) (hrom : A.mapping.RomWF) (p n : Nat)
    (hp : A.physical = some (p : Int))
    (hstay : A.bus.mappingForBank ((Spec.address A.mapping.range (p + n)) >>> 16) = some A.mapping) :
    A.add n = some ⟨A.bus, Spec.address A.mapping.range (p + n), A.mapping⟩ := by
  unfold Address.WF at hA
  unfold Address.physical at hp
  have hm0 : A.mapping.mask ≠ 0 := by rcases hrom.2 with h | h <;> omega
  unfold Address.add
  simp only [hA, hp, hm0, ↓reduceIte]
  have : ¬ ((p : Int) + (n : Int) < 0) := by omega
  simp only [this, ↓reduceIte]
  have e : ((p : Int) + (n : Int)).toNat = p + n := by omega
  rw [e, Mapping.logicalAddress_eq_address A.mapping hrom.2 (p + n)]
  exact Address.mk?_nat hstay

/-- Advancing a ROM address by `n` yields the address whose file offset is `n` larger, looked up to
    the same mapping (hence the same primary/mirror range) and inside the bank window — provided the
    bank reached is still looked up to that mapping ("stays inside the mapped range"). -/
theorem add_rom (A : Address) (hA : A.WF) (hrom : A.mapping.RomWF) (p n : Nat)
    (hp : A.physical = some (p : Int))
    (hstay : A.bus.mappingForBank ((Spec.address A.mapping.range (p + n)) >>> 16) = some A.mapping) :
    ∃ A', A.add n = some A' ∧ A'.WF ∧ A'.bus = A.bus ∧ A'.mapping = A.mapping ∧
      A'.logical = Spec.address A.mapping.range (p + n) ∧
      A'.physical = some ((p + n : Nat) : Int) ∧ inWindow A.mapping.mask A'.logical :=
  ⟨_, add_rom_eq A hA hrom p n hp hstay, hstay, rfl, rfl, rfl, A.mapping.physicalAddress_address hrom (p + n),
    (Spec.offset_address A.mapping.range hrom.2 (p + n)).2.2⟩

/-- For RAM, advancing adds `n` to the logical address. -/
theorem add_ram (A : Address) (hA : A.WF) (hram : A.mapping.ram = true) (n : Nat) (m' : Mapping)
    (hstay : A.bus.mappingForBank ((A.logical + n) >>> 16) = some m') :
    A.add n = some ⟨A.bus, A.logical + n, m'⟩ := by
  unfold Address.WF at hA
  unfold Address.add
  simp only [hA, Mapping.physicalAddress_ram _ hram]
  exact Address.mk?_nat hstay

/-- Advancing an in-window ROM address by 0 gives back the very same address object (bus, cached mapping and value). -/
theorem add_zero_same (A : Address) (hA : A.WF) (wf : BusWF A.bus) (hrom : A.mapping.RomWF)
    (hwin : inWindow A.mapping.mask A.logical) : A.add 0 = some A := by
  have hA' := hA
  unfold Address.WF at hA
  have hlo : A.mapping.lo ≤ bankOf A.logical := by
    have := (wf _ _ hA).1; rwa [shr16] at this
  have hp : A.physical = some ((Spec.offset A.mapping.range A.logical : Nat) : Int) :=
    Mapping.physicalAddress_eq_offset _ hrom _ hlo hwin
  have hback := Spec.address_offset A.mapping.range hrom.2 A.logical hlo hwin
  have hstay : A.bus.mappingForBank ((Spec.address A.mapping.range (Spec.offset A.mapping.range A.logical + 0)) >>> 16) = some A.mapping := by
    rw [Nat.add_zero, hback]; exact hA
  rw [add_rom_eq A hA' hrom _ 0 hp hstay, Nat.add_zero, hback]

/-- Advancing by 0 is the identity on in-window ROM addresses. -/
theorem add_zero (A : Address) (hA : A.WF) (wf : BusWF A.bus) (hrom : A.mapping.RomWF)
    (hwin : inWindow A.mapping.mask A.logical) :
    (A.add 0).map Address.logical = some A.logical := by
  rw [add_zero_same A hA wf hrom hwin]; rfl

/-- a RAM address advanced by 0 is itself -/
theorem add_zero_ram (A : Address) (hA : A.WF) (hram : A.mapping.ram = true) : A.add 0 = some A := by
  have := add_ram A hA hram 0 A.mapping (by simpa [Address.WF] using hA)
  simpa using this

/-- Advancing by `m` then by `n` equals advancing by `m + n` (both steps staying in the mapped range). -/
theorem add_add (A : Address) (hA : A.WF) (hrom : A.mapping.RomWF) (p m n : Nat)
    (hp : A.physical = some (p : Int))
    (hstay1 : A.bus.mappingForBank ((Spec.address A.mapping.range (p + m)) >>> 16) = some A.mapping)
    (hstay2 : A.bus.mappingForBank ((Spec.address A.mapping.range (p + m + n)) >>> 16) = some A.mapping) :
    ((A.add m).bind (·.add n)).map Address.logical = (A.add (m + n)).map Address.logical := by
  obtain ⟨A1, h1, w1, b1, m1, _, p1, _⟩ := add_rom A hA hrom p m hp hstay1
  have hrom1 : A1.mapping.RomWF := by rw [m1]; exact hrom
  have hstay2' : A1.bus.mappingForBank ((Spec.address A1.mapping.range (p + m + n)) >>> 16) = some A1.mapping := by
    rw [b1, m1]; exact hstay2
  obtain ⟨A2, h2, _, _, _, l2, _, _⟩ := add_rom A1 w1 hrom1 (p + m) n p1 hstay2'
  have hstay3 : A.bus.mappingForBank ((Spec.address A.mapping.range (p + (m + n))) >>> 16) = some A.mapping := by
    rw [← Nat.add_assoc]; exact hstay2
  obtain ⟨A3, h3, _, _, _, l3, _, _⟩ := add_rom A hA hrom p (m + n) hp hstay3
  rw [h1, h3]; simp only [Option.bind_some, Option.map_some, h2, l2, l3, m1, Nat.add_assoc]

/-- The lookup dicts of the built-in buses are the bank ranges `a816/symbols.py` declares, in dict order (the work RAM
    of the HiROM bus overrides banks 7E–7F of its ROM range). -/
theorem low_lookup : Gen.lowRomBus.lookup =
    bankRuns [("1", 0x00, 0x6F), ("1_mirror", 0x80, 0xCF), ("2", 0x7E, 0x7F)] := by decide +kernel
theorem high_lookup : Gen.highRomBus.lookup =
    bankRuns [("1", 0x40, 0x7D), ("2", 0x7E, 0x7F), ("1_mirror", 0xC0, 0xFF)] := by decide +kernel

theorem low_wf : BusWF Gen.lowRomBus := busWF_of_runs low_lookup (by decide)
theorem high_wf : BusWF Gen.highRomBus := busWF_of_runs high_lookup (by decide)

/-- all mappings of a bus are either RAM or ROM with one of the two window sizes; a `<id>_mirror`
    mapping has the same size and kind as `<id>` and covers no more banks -/
def mappingsOk (bus : BusCfg) : Bool :=
  bus.mappings.all fun (ident, m) =>
    (m.ram || m.mask == 0x8000 || m.mask == 0x10000) && m.lo ≤ m.hi &&
    (match alookup (ident ++ "_mirror") bus.mappings with
     | some q => q.mask == m.mask && q.ram == m.ram && decide (q.hi - q.lo ≤ m.hi - m.lo)
     | none => true)

theorem low_mappings_ok : mappingsOk Gen.lowRomBus = true := by decide +kernel
theorem high_mappings_ok : mappingsOk Gen.highRomBus = true := by decide +kernel

/-- LoROM uses 32 KiB windows, HiROM whole banks (every ROM mapping of the built-in buses). -/
theorem low_is_32k : Gen.lowRomBus.mappings.all (fun (_, m) => m.ram || m.mask == 0x8000) = true := by
  decide +kernel
theorem high_is_64k : Gen.highRomBus.mappings.all (fun (_, m) => m.ram || m.mask == 0x10000) = true := by
  decide +kernel

/-- The built-in buses are frozen (`.map` cannot edit them). -/
theorem builtin_frozen : Gen.lowRomBus.editable = false ∧ Gen.highRomBus.editable = false := by
  decide +kernel

def kindOf : Option Mapping → Option BankKind
  | none => none
  | some m => if m.ram then some .ram else some (.rom m.range)
def expectLow (b : Nat) : Option Mapping :=
  if b ≤ 0x6F then some ⟨0x00, 0x6F, 0x8000, false⟩
  else if 0x7E ≤ b ∧ b ≤ 0x7F then some ⟨0x7E, 0x7F, 0x10000, true⟩
  else if 0x80 ≤ b ∧ b ≤ 0xCF then some ⟨0x80, 0xCF, 0x8000, false⟩
  else none
def expectHigh (b : Nat) : Option Mapping :=
  if 0x40 ≤ b ∧ b ≤ 0x7D then some ⟨0x40, 0x7F, 0x10000, false⟩
  else if 0x7E ≤ b ∧ b ≤ 0x7F then some ⟨0x7E, 0x7F, 0x10000, true⟩
  else if 0xC0 ≤ b ∧ b ≤ 0xFF then some ⟨0xC0, 0xFF, 0x10000, false⟩
  else none

/-- the mapping of every bank (no bound on `b`) -/
theorem low_bank (b : Nat) : Gen.lowRomBus.mappingForBank b = expectLow b := by
  unfold BusCfg.mappingForBank expectLow
  simp only [low_lookup, alookup_bankRuns_cons, alookup_bankRuns_nil]
  have : b ≤ 0x6F ∨ 0x70 ≤ b ∧ b ≤ 0x7D ∨ 0x7E ≤ b ∧ b ≤ 0x7F ∨ 0x80 ≤ b ∧ b ≤ 0xCF ∨ 0xD0 ≤ b := by omega
  rcases this with h | h | h | h | h <;> simp (disch := omega) only [if_pos, if_neg] <;> decide
theorem high_bank (b : Nat) : Gen.highRomBus.mappingForBank b = expectHigh b := by
  unfold BusCfg.mappingForBank expectHigh
  simp only [high_lookup, alookup_bankRuns_cons, alookup_bankRuns_nil]
  have : b ≤ 0x3F ∨ 0x40 ≤ b ∧ b ≤ 0x7D ∨ 0x7E ≤ b ∧ b ≤ 0x7F ∨ 0x80 ≤ b ∧ b ≤ 0xBF ∨
      0xC0 ≤ b ∧ b ≤ 0xFF ∨ 0x100 ≤ b := by omega
  rcases this with h | h | h | h | h | h <;> simp (disch := omega) only [if_pos, if_neg] <;> decide

theorem kindOf_expectLow (b : Nat) : kindOf (expectLow b) = Spec.loRomBank b := by
  unfold expectLow Spec.loRomBank
  split; · rfl
  split; · rfl
  split <;> rfl
theorem kindOf_expectHigh (b : Nat) : kindOf (expectHigh b) = Spec.hiRomBank b := by
  unfold expectHigh Spec.hiRomBank
  split; · rfl
  split; · rfl
  split <;> rfl

/-- Every bank of the 24-bit space is classified on each built-in bus exactly as the SNES memory map of
    `Spec.loRomBank` / `Spec.hiRomBank` says (pinned to what the assembler supports today). -/
theorem low_kinds : (List.range 300).all (fun b => kindOf (Gen.lowRomBus.mappingForBank b) == Spec.loRomBank b) = true :=
  List.all_eq_true.mpr fun b _ => by rw [low_bank, kindOf_expectLow]; exact beq_self_eq_true _
theorem high_kinds : (List.range 300).all (fun b => kindOf (Gen.highRomBus.mappingForBank b) == Spec.hiRomBank b) = true :=
  List.all_eq_true.mpr fun b _ => by rw [high_bank, kindOf_expectHigh]; exact beq_self_eq_true _

/-- SNES work RAM (banks 7E–7F) is RAM on both built-in buses: no file offset. -/
theorem builtin_wram :
    ([Gen.lowRomBus, Gen.highRomBus].all fun bus => Spec.wramBanks.all fun b =>
      match bus.mappingForBank b with | some m => m.ram | none => false) = true := by
  simp only [List.all_cons, List.all_nil, Spec.wramBanks, low_bank, high_bank]; decide

/-! non-vacuity: the hypotheses are met by concrete addresses (the repository's own test values) -/

example : busPhys Gen.lowRomBus 0x12FFFF = some (some 0x097FFF) := by decide +kernel
example : busAdd Gen.lowRomBus 0x12FFFF 1 = some 0x138000 := by decide +kernel
example : busPhys Gen.lowRomBus 0x138000 = some (some 0x098000) := by decide +kernel
example : busPhys Gen.lowRomBus 0x928000 = busPhys Gen.lowRomBus 0x128000 := by decide +kernel
example : busPhys Gen.lowRomBus 0x7E0000 = some none := by decide +kernel
example : busPhys Gen.lowRomBus 0x700000 = none := by decide +kernel
example : busPhys Gen.highRomBus 0xC00000 = some (some 0) := by decide +kernel
example : (⟨0x00, 0x6F, 0x8000, false⟩ : Mapping).RomWF := by decide +kernel

end A816.C04
