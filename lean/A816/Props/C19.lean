import A816.Model.Program
import A816.Gen.Tables
import A816.Proofs.NodeSteps
import A816.Proofs.Emit
/-!
# C19 — Assemblies are independent of each other and repeatable

In the model an assembly is a pure function of (tables, mapping, files, defines, source): there is no
state for one assembly to leave behind.  The property for the *code* is therefore the frame condition
"an assembly does not change the shared process state `G`", and what follows from it:

* `history_irrelevant`: for any state machine whose steps leave the shared state unchanged, the result
  of a probe after any history equals its result on the initial state; `repeatable` likewise.
* `model_frame`: the model's `assemble` takes no process state at all: as a step of such a machine it leaves the shared
  state (the immutable tables) unchanged.

The frame condition for the implementation is *observed* by the S19 monitor (every object of
`Gen.globals` is fingerprinted before and after each assembly) — it is not proved.
-/
namespace A816.C19
open A816

variable {G I O : Type}

/-- run a history, returning the final shared state and the outputs -/
def runHistory (step : G → I → G × O) : G → List I → G × List O
  | g, [] => (g, [])
  | g, i :: is =>
    let (g1, o) := step g i
    let (g2, os) := runHistory step g1 is
    (g2, o :: os)

theorem frame_run (step : G → I → G × O) (frame : ∀ g i, (step g i).1 = g) (g : G) (h : List I) :
    (runHistory step g h).1 = g := by
  induction h generalizing g with
  | nil => rfl
  | cons i is ih => show (runHistory step (step g i).1 is).1 = g; rw [frame, ih]

/-- **history irrelevance**: after any history the probe gives what it gives alone -/
theorem history_irrelevant (step : G → I → G × O) (frame : ∀ g i, (step g i).1 = g) (g : G) (h : List I) (p : I) :
    (step (runHistory step g h).1 p).2 = (step g p).2 := by
  rw [frame_run step frame g h]

/-- **repeatable**: assembling the same input twice gives identical results -/
theorem repeatable (step : G → I → G × O) (frame : ∀ g i, (step g i).1 = g) (g : G) (p : I) :
    (step (step g p).1 p).2 = (step g p).2 := by
  rw [frame g p]

/-- the model's assembler as a step of such a machine: the shared state is the (immutable) tables -/
def modelStep (t : Tables) (i : RomType × FS × List (String × Int) × String) : Tables × Outcome :=
  (t, assemble t i.1 i.2.1 "main.s" i.2.2.1 i.2.2.2)

theorem model_frame (t : Tables) (i : RomType × FS × List (String × Int) × String) : (modelStep t i).1 = t := rfl

/-- the built-in buses cannot be edited by an assembly (`.map` on them raises): regenerated from the code -/
theorem builtin_buses_frozen : Gen.lowRomBus.editable = false ∧ Gen.highRomBus.editable = false := by decide +kernel

theorem frozen_bus_rejects_map (b : BusCfg) (h : b.editable = false) (ident : String) (lo hi mask : Nat) (ram : Bool)
    (mirror : Option (Nat × Nat)) : b.map ident lo hi mask ram mirror = none := by
  simp [BusCfg.map, h]

/-! ## emission is repeatable on one resolver

`Program.emit` moves the resolver's position (`pc`, `reloc_address`) and replays the scopes (`current_scope`,
`last_used_scope`); it changes nothing else — no symbol, label or table of any scope, no bus.  Putting the four
position fields back therefore gives back exactly the resolver the emission started from, and a second emission of the
same node list writes the same blocks (what `resolver_reset()` + `emit` does for a tool that writes two files from one
resolved program; `resolver_reset` restores three of the four fields, the fourth is set by the program's first `*=`). -/

/-- `r'` is `r` up to the four position fields -/
def PosOnly (r r' : Resolver) : Prop :=
  r' = { r with pc := r'.pc, reloc := r'.reloc, current := r'.current, lastUsed := r'.lastUsed }

theorem PosOnly.refl (r : Resolver) : PosOnly r r := by cases r; rfl

theorem PosOnly.trans {a b c : Resolver} (h1 : PosOnly a b) (h2 : PosOnly b c) : PosOnly a c := by
  unfold PosOnly at *
  rw [h2, h1]

/-- what a node's `emit` leaves of the resolver: everything but the position -/
theorem emitNode_posOnly (env : Env) (n : Node) (r r' : Resolver) (bs : List Nat) (h : emitNode env n r = .ok (r', bs)) :
    PosOnly r r' := by
  cases emitNode_step h with
  | stay => exact PosOnly.refl _
  | _ => rfl

theorem emitStep_posOnly (env : Env) (n : Node) (st st' : EmitState) (h : emitStep env n st = .ok st') :
    PosOnly st.r st'.r := by
  obtain ⟨r1, bs, o⟩ := emitStep_spec h
  have p1 := emitNode_posOnly env n st.r r1 bs o.emit
  cases bs with
  | nil => rw [o.same rfl]; exact p1
  | cons b t =>
    obtain ⟨a', _, hr⟩ := o.moved (List.cons_ne_nil b t)
    rw [hr]; exact p1.trans rfl

theorem emitLoop_posOnly (env : Env) : ∀ (ns : List Node) (st st' : EmitState), emitLoop env ns st = .ok st' →
    PosOnly st.r st'.r := by
  intro ns st st' h
  fun_induction emitLoop env ns st with
  | case1 st => cases h; exact PosOnly.refl _
  | case2 => cases h
  | case3 n ns st s1 hs ih => exact (emitStep_posOnly env n st s1 hs).trans (ih h)

/-- **a second emission repeats the first**: after emitting a node list, the resolver with its four position fields put
    back is the resolver the emission started from — no scope, symbol, label, table or bus was touched — so emitting
    the same node list again from it gives the same writes, the same trace and the same final state (or the same error) -/
theorem second_emission_repeats (env : Env) (ns : List Node) (st st' : EmitState) (h : emitLoop env ns st = .ok st') :
    emitLoop env ns { st with r := { st'.r with pc := st.r.pc, reloc := st.r.reloc, current := st.r.current, lastUsed := st.r.lastUsed } } = .ok st' := by
  have hp := emitLoop_posOnly env ns st st' h
  have : ({ st'.r with pc := st.r.pc, reloc := st.r.reloc, current := st.r.current, lastUsed := st.r.lastUsed } : Resolver) = st.r := by
    unfold PosOnly at hp
    rw [hp]
  rw [this]
  exact h

/-- forget the ghost trace -/
def noTrace (s : EmitState) : EmitState := { s with trace := [] }

/-- `stepF` reads the resolver and the trace of the state it starts from only for the trace record -/
theorem stepF_noTrace (st : EmitState) (r0 : Resolver) (t : List TraceRec) (r1 : Resolver) (bs : List Nat) :
    (stepF st r1 bs).map noTrace = (stepF { st with r := r0, trace := t } r1 bs).map noTrace := by
  unfold stepF
  split
  · rfl
  · simp only []
    cases addrAdd r1.reloc bs.length <;> rfl

theorem flushed_noTrace (n : Node) (s : EmitState) : noTrace (flushed n s) = flushed n (noTrace s) := by
  unfold flushed
  split
  · show noTrace (if s.block.isEmpty then _ else _) = if s.block.isEmpty then _ else _
    split <;> rfl
  · rfl

theorem postF_noTrace (n : Node) (s : EmitState) : noTrace (postF n s) = noTrace (postF n (noTrace s)) := by
  unfold postF; rw [← flushed_noTrace]; rfl

/-- two outcomes equal up to the trace stay so through a continuation that does not read the trace -/
theorem bind_noTrace {x y : Except Err EmitState} (hxy : x.map noTrace = y.map noTrace) {f : EmitState → Except Err EmitState}
    (hf : ∀ s, (f s).map noTrace = (f (noTrace s)).map noTrace) : (x.bind f).map noTrace = (y.bind f).map noTrace := by
  cases x <;> cases y
  · cases hxy; rfl
  · cases hxy
  · cases hxy
  · rename_i a b
    show (f a).map noTrace = (f b).map noTrace
    rw [hf a, hf b, Except.ok.inj hxy]

/-- the ghost trace never influences anything else: one step -/
theorem emitStep_noTrace (env : Env) (n : Node) (st : EmitState) :
    (emitStep env n st).map noTrace = (emitStep env n (noTrace st)).map noTrace := by
  rw [emitStep_eq, emitStep_eq, show (noTrace st).r = st.r from rfl]
  cases emitNode env n st.r with
  | error e => rfl
  | ok p => exact bind_noTrace (stepF_noTrace st st.r [] p.1 p.2) fun s => congrArg Except.ok (postF_noTrace n s)

theorem emitLoop_noTrace (env : Env) : ∀ (ns : List Node) (st : EmitState),
    (emitLoop env ns st).map noTrace = (emitLoop env ns (noTrace st)).map noTrace := by
  intro ns
  induction ns with
  | nil => intro st; rfl
  | cons n ns ih => intro st; rw [emitLoop_cons, emitLoop_cons]; exact bind_noTrace (emitStep_noTrace env n st) ih

/-- a `*=` does not look at where the resolver was: with an empty current block, the step from a resolver whose run
    address is anything gives the same state (ghost trace apart) -/
theorem emitStep_codePos_reloc (env : Env) (e : PExpr) (info : Tok) (st : EmitState) (x : Address) (hb : st.block = []) :
    (emitStep env (.codePos e info) { st with r := { st.r with reloc := x } }).map noTrace =
      (emitStep env (.codePos e info) st).map noTrace := by
  -- `set_position` overwrites the run address without reading it, and the open block only enters the trace record
  rw [emitStep_eq, emitStep_eq]
  show ((emitNode env (.codePos e info) st.r).bind _).map noTrace = _
  cases emitNode env (.codePos e info) st.r with
  | error er => rfl
  | ok p => exact bind_noTrace (stepF_noTrace st _ _ p.1 p.2).symm fun s => congrArg Except.ok (postF_noTrace _ s)

/-- **`resolver_reset()` then `emit` repeats the emission of a program that starts with `*=`**: for every node list
    that begins with a position node, emitted from a reset resolver (`pc`, `current_scope`, `last_used_scope` at their
    initial values) with no open block: emitting it again after `resolver_reset()` — which leaves the run address where
    the first emission ended — gives the same `write_block` calls, the same final resolver, the same open block (the
    ghost trace apart), or fails the same way. -/
theorem second_emission_after_reset (env : Env) (e : PExpr) (info : Tok) (ns : List Node) (st st' : EmitState)
    (h : emitLoop env (.codePos e info :: ns) st = .ok st')
    (h0 : st.r.pc = 0 ∧ st.r.current = 0 ∧ st.r.lastUsed = 0) (hb : st.block = []) :
    (emitLoop env (.codePos e info :: ns) { st with r := resolverReset st'.r }).map noTrace = .ok (noTrace st') := by
  have hp := emitLoop_posOnly env _ st st' h
  have hr : resolverReset st'.r = { st.r with reloc := st'.r.reloc } := by
    unfold PosOnly at hp
    rw [hp]
    unfold resolverReset
    obtain ⟨h1, h2, h3⟩ := h0
    cases hst : st.r
    rw [hst] at h1 h2 h3
    simp only at h1 h2 h3
    subst h1 h2 h3
    rfl
  rw [hr]
  rw [← show (emitLoop env (.codePos e info :: ns) st).map noTrace = .ok (noTrace st') from congrArg (Except.map noTrace) h,
    emitLoop_cons, emitLoop_cons]
  exact bind_noTrace (emitStep_codePos_reloc env e info st st'.r.reloc hb) (emitLoop_noTrace env ns)

/-- non-vacuity: an emission that returns and really moves position fields (a scope entered and left) -/
example : ((emitLoop (⟨fun _ => none, []⟩ : Env) [.scopeEnter, .scopePop]
      { (default : EmitState) with r := { (default : Resolver) with scopes := #[{ kind := .plain, parent := none }, { kind := .plain, parent := some 0 }] } }).toOption.map
        fun s => (s.r.lastUsed, s.r.current)) = some (1, 0) := by decide +kernel

end A816.C19
