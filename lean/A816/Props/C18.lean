import A816.Proofs.Table
/-!
# C18 — Table-encoded text follows the table (longest match) and occupies its emitted size

For **every** table and **every** string: the descending search of `Table.to_bytes`, bounded by
`min(len(text), max_text_length)`, finds exactly the longest table text that is a prefix of what
remains (`tryLen_longest`), hence `to_bytes` is the reference longest-match encoder
(`toBytes_is_encode`).  The size the directive is given in the address layout is `len(to_bytes(text))`
by construction (`AbstractTextNode.pc_after`), see C02.

**Decode round trip** (`roundtrip`): over a table whose codes are unique, non-empty, prefix-free and without
`ignore` suffixes (`Decodable`), `to_text` of the concatenated codes of any sequence of entries returns the
concatenation of their texts — the descending byte-length search finds exactly the code that was emitted,
because any longer matching code would have that code as a proper prefix.

**Composition** (`toBytesAux_entries`, `decode_encode`, `C18_roundtrip_file`): what `to_bytes` emits for a string
without `[` *is* the concatenated codes of a sequence of table entries whose texts are the string minus the characters
that start no entry; hence `to_text (to_bytes s) = s` for every string whose characters are each a table text, over every
table file with unique, non-empty, prefix-free codes — whichever longer entries the encoder matched on the way.
-/
namespace A816.C18
open A816 Spec.Table

def linesOf (es : List TblEntry) : List Line := es.map fun e => (e.text, e.code)

theorem codeOf_lines (es : List TblEntry) (text : List Char) :
    codeOf (linesOf es) text = tblLookup es text := by
  unfold codeOf tblLookup linesOf
  rw [← List.map_reverse, List.find?_map, Option.map_map]
  rfl

/-- `Spec.longest` satisfies its declarative specification -/
theorem longest_isLongest (tbl : List Line) (s : List Char) :
    (∀ c n, longest tbl s = some (c, n) → IsLongest tbl s n c) ∧ (longest tbl s = none → NoMatch tbl s) := by
  unfold longest; rw [longestFrom_eq]
  exact ⟨fun c n h => firstDown_eq_some_iff.mp h, firstDown_eq_none_iff.mp⟩

theorem tryLen_eq_longestFrom (es : List TblEntry) (rem : List Char) (k : Nat) :
    tryLen es rem k = longestFrom (linesOf es) rem k := by
  simp only [tryLen_eq, longestFrom_eq, codeOf_lines]

/-- what a match does to the walk: the code emitted and the string that remains -/
def eff (s : List Char) (r : Option (List Nat × Nat)) : Option (List Nat × List Char) :=
  r.map fun (c, n) => (c, s.drop n)

/-- slices beyond the end of the string are the whole string: searching from a bound past the end has
    the same effect as searching from the end -/
theorem longestFrom_over (tbl : List Line) (s : List Char) (hne : s ≠ []) (j : Nat) :
    eff s (longestFrom tbl s (s.length + j)) = eff s (longestFrom tbl s s.length) := by
  cases hc : codeOf tbl s with
  | none =>
    rw [longestFrom_shrink fun m h1 _ => by rw [List.take_of_length_le (by omega)]; exact hc]
  | some c =>
    -- the whole rest is a table text: the search from any bound past the end finds it at once
    have top : ∀ k, s.length ≤ k + 1 → eff s (longestFrom tbl s (k + 1)) = some (c, []) := fun k hk => by
      rw [longestFrom, List.take_of_length_le hk, hc]
      simp only [eff, Option.map_some, List.drop_of_length_le hk]
    obtain ⟨n, hn⟩ : ∃ n, s.length = n + 1 := ⟨s.length - 1, by have := List.length_pos_iff.mpr hne; omega⟩
    rw [hn, Nat.add_right_comm, top _ (by omega), top _ (by omega)]

/-- **The search of `to_bytes` is the longest match** on the remainder, for any remainder of the text
    (same code emitted, same string left). -/
theorem tryLen_longest (t : Tbl) (textLen : Nat) (rem : List Char)
    (hmax : t.maxTextLen = (t.entries.map (·.text.length)).foldl max 0) (hlen : rem.length ≤ textLen)
    (hne : rem ≠ []) :
    eff rem (tryLen t.entries rem (min textLen t.maxTextLen)) = eff rem (longest (linesOf t.entries) rem) := by
  rw [tryLen_eq_longestFrom]
  unfold longest
  by_cases hcase : rem.length ≤ t.maxTextLen
  · -- the bound reaches past the end of the remainder
    obtain ⟨j, hj⟩ : ∃ j, min textLen t.maxTextLen = rem.length + j := ⟨min textLen t.maxTextLen - rem.length, by omega⟩
    rw [hj]; exact longestFrom_over _ _ hne _
  · -- the bound is max_text_length: no longer slice can be a table text
    have hk : min textLen t.maxTextLen = t.maxTextLen := by omega
    obtain ⟨j, hj⟩ : ∃ j, rem.length = t.maxTextLen + j := ⟨rem.length - t.maxTextLen, by omega⟩
    rw [hk]
    conv => rhs; rw [hj]
    congr 1
    refine (longestFrom_shrink fun m h1 h2 => ?_).symm
    rw [codeOf_lines, Option.eq_none_iff_forall_ne_some]
    intro c hl
    have h3 := tblLookup_len hl
    rw [List.length_take, ← hmax] at h3
    omega

/-- the hand-written recogniser of `joker_regex` is the reference escape -/
theorem jokerMatch_eq_escape (rem : List Char) : jokerMatch rem = escape rem := by
  unfold jokerMatch escape
  by_cases h3 : rem.take 3 = ['[', '0', 'x']
  · simp only [h3, ↓reduceIte]
    obtain ⟨h1, h2, h3', h4⟩ := spanHex_eq (rem.drop 3)
    have hall := spanChars_all isHexChar (rem.drop 3)
    rw [h3', h2]
    by_cases he : (takeHex (rem.drop 3)).1.isEmpty = true
    · simp [he]
    · simp only [he, Bool.false_eq_true, ↓reduceIte]
      by_cases hb : (takeHex (rem.drop 3)).2.head? = some ']'
      · simp only [hb, ↓reduceIte, parseDigits_hex _ 0 hall, h1, h4, Option.map_some]
      · simp [hb]
  · simp [h3]

theorem toOption_cons (x : Except Err (List Nat)) (v : Nat) :
    (match x with | .error e => (.error e : Except Err (List Nat)) | .ok r => .ok (v :: r)).toOption
      = x.toOption.map (fun r => v :: r) := by
  cases x <;> rfl
theorem toOption_append (x : Except Err (List Nat)) (pre : List Nat) :
    (match x with | .error e => (.error e : Except Err (List Nat)) | .ok r => .ok (pre ++ r)).toOption
      = x.toOption.map (fun r => pre ++ r) := by
  cases x <;> rfl

/-- the reference encoder takes the same steps as `to_bytes` -/
theorem encode_succ (t : Tbl) (textLen : Nat) (hmax : t.maxTextLen = (t.entries.map (·.text.length)).foldl max 0)
    (fuel : Nat) (rem : List Char) (hlen : rem.length ≤ textLen) (hne : rem ≠ []) :
    encode (linesOf t.entries) (fuel + 1) rem =
      match encStep t textLen rem with
      | none => none
      | some (out, n) => (encode (linesOf t.entries) fuel (rem.drop n)).map (out ++ ·) := by
  have he : rem.isEmpty = false := by cases rem with | nil => exact absurd rfl hne | cons _ _ => rfl
  conv => lhs; unfold encode
  unfold encStep
  generalize encode (linesOf t.entries) fuel = go
  rw [he, ← jokerMatch_eq_escape]
  simp only [Bool.false_eq_true, ↓reduceIte]
  cases jokerMatch rem with
  | some vn => dsimp only; split <;> rfl
  | none =>
    have hl := tryLen_longest t textLen rem hmax hlen hne
    dsimp only
    cases ht : tryLen t.entries rem (min textLen t.maxTextLen) with
    | some ci =>
      cases hlg : longest (linesOf t.entries) rem with
      | none => rw [ht, hlg] at hl; cases hl
      | some cn =>
        rw [ht, hlg] at hl
        simp only [eff, Option.map_some, Option.some.injEq, Prod.mk.injEq] at hl
        dsimp only [Option.getD]; rw [hl.1, hl.2]
    | none =>
      cases hlg : longest (linesOf t.entries) rem with
      | some cn => rw [ht, hlg] at hl; cases hl
      | none => dsimp only [Option.getD]; cases go (rem.drop 1) <;> rfl

/-- **`to_bytes` is the reference longest-match encoder**, for every table and every string. -/
theorem toBytesAux_is_encode (t : Tbl) (textLen : Nat)
    (hmax : t.maxTextLen = (t.entries.map (·.text.length)).foldl max 0) (fuel : Nat) :
    ∀ (rem : List Char), rem.length ≤ textLen → rem.length ≤ fuel →
      (toBytesAux t textLen fuel rem).toOption = encode (linesOf t.entries) fuel rem := by
  induction fuel with
  | zero => intro rem _ h0; rw [List.length_eq_zero_iff.mp (Nat.le_zero.mp h0)]; rfl
  | succ f ih =>
    intro rem hlen hf
    rw [toBytesAux_succ]
    cases rem with
    | nil => rfl
    | cons a r =>
      rw [encode_succ t textLen hmax f (a :: r) hlen (List.cons_ne_nil a r), if_neg (by simp)]
      cases hs : encStep t textLen (a :: r) with
      | none => rfl
      | some on =>
        have := encStep_pos hs
        dsimp only
        rw [Except.toOption_map, ih _ (by rw [List.length_drop]; omega) (by rw [List.length_drop]; omega)]

/-- **C18 (encoding)**: `Table.to_bytes(text)` = reference longest-match encoding of `text`. -/
theorem toBytes_is_encode (lines : List (List Char)) (t : Tbl) (h : mkTable lines = .ok t) (text : List Char) :
    (t.toBytes text).toOption = encode (linesOf t.entries) text.length text := by
  unfold Tbl.toBytes
  exact toBytesAux_is_encode t text.length (mkTable_max h).1 text.length text (Nat.le_refl _) (Nat.le_refl _)

/-- termination of `to_bytes`: the length of the text is enough fuel (every iteration consumes a character) -/
theorem toBytes_fuel (t : Tbl) (textLen fuel : Nat) :
    ∀ (rem : List Char), rem.length ≤ fuel → toBytesAux t textLen fuel rem ≠ .error .outOfFuel := by
  induction fuel with
  | zero => intro rem h; rw [List.length_eq_zero_iff.mp (Nat.le_zero.mp h)]; exact nofun
  | succ f ih =>
    intro rem h
    rw [toBytesAux_succ]
    split
    · exact nofun
    · split
      · exact nofun
      · rename_i out n hs
        have := ih (rem.drop n) (by have := encStep_pos hs; rw [List.length_drop]; omega)
        cases hr : toBytesAux t textLen f (rem.drop n) with
        | error e => rw [hr] at this; exact fun hc => this (by cases hc; rfl)
        | ok r => exact nofun

/-! non-vacuity: table a=01, b=02, ab=03 encodes "aab" as 01 03; escape and unknown characters -/
private def tAB : List (List Char) := ["01=a\n".toList, "02=b\n".toList, "03=ab\n".toList]
example : (mkTable tAB).toOption.map (fun t => (t.toBytes "aab".toList).toOption) = some (some [1, 3]) := by
  decide +kernel
example : (mkTable tAB).toOption.map (fun t => (t.toBytes "a[0xFe]zab".toList).toOption)
    = some (some [1, 0xFE, 3]) := by decide +kernel
example : encode (linesOf [⟨['a'], [1], none⟩, ⟨['a', 'b'], [3], none⟩]) 3 "aab".toList = some [1, 3] := by
  decide +kernel

/-- a table whose codes can be decoded unambiguously: no `ignore` suffixes, no empty code, the codes identify
    their entry, no code is a proper prefix of another, and `maxCodeLen` covers every code (as `mkTable` computes it) -/
structure Decodable (t : Tbl) : Prop where
  noIgnore : ∀ e ∈ t.entries, e.ignore = none
  nonEmpty : ∀ e ∈ t.entries, e.code ≠ []
  unique : ∀ e1 ∈ t.entries, ∀ e2 ∈ t.entries, e1.code = e2.code → e1 = e2
  prefixFree : ∀ e1 ∈ t.entries, ∀ e2 ∈ t.entries, e1.code <+: e2.code → e1.code = e2.code
  maxLen : ∀ e ∈ t.entries, e.code.length ≤ t.maxCodeLen

/-- the downward loop finds the match at length `n` when nothing longer matches -/
theorem tryLenBytes_found (es : List TblEntry) (rem : List Nat) (n : Nat) (e0 : TblEntry) (hn : 0 < n)
    (h0 : tblInvLookup es (rem.take n) = some e0) :
    ∀ k, n ≤ k → (∀ j, n < j → j ≤ k → tblInvLookup es (rem.take j) = none) → tryLenBytes es rem k = some (e0, n) :=
  fun k hk hnone => by rw [tryLenBytes_eq]; exact firstDown_eq_some_iff.mpr ⟨hn, hk, h0, hnone⟩

/-- over a decodable table, the search of `to_text` on the code of an entry followed by anything finds that entry at
    its own length: the code identifies it, and a longer match would have this code as a proper prefix -/
theorem tryLenBytes_code {t : Tbl} (hd : Decodable t) {e : TblEntry} (he : e ∈ t.entries) (tail : List Nat) :
    tryLenBytes t.entries (e.code ++ tail) (min (e.code ++ tail).length t.maxCodeLen) = some (e, e.code.length) := by
  have hfound : tblInvLookup t.entries ((e.code ++ tail).take e.code.length) = some e := by
    rw [List.take_left' rfl]
    cases h : tblInvLookup t.entries e.code with
    | none => exact absurd rfl (tblInvLookup_none h e he)
    | some e' => obtain ⟨hm, hc⟩ := tblInvLookup_some h; rw [hd.unique e' hm e he hc]
  have hmax := hd.maxLen e he
  refine tryLenBytes_found _ _ _ e (List.length_pos_iff.mpr (hd.nonEmpty e he)) hfound _
    (by rw [List.length_append]; omega) fun j hj hjk => ?_
  cases hx : tblInvLookup t.entries ((e.code ++ tail).take j) with
  | none => rfl
  | some x =>
    obtain ⟨hxm, hxc⟩ := tblInvLookup_some hx
    have hpre : e.code <+: x.code := by
      rw [hxc]
      exact List.prefix_of_prefix_length_le (List.prefix_append _ _) (List.take_prefix _ _)
        (by rw [List.length_take]; omega)
    rw [hd.prefixFree e he x hxm hpre, hxc, List.length_take] at hj
    omega

theorem roundtrip_aux (t : Tbl) (hd : Decodable t) : ∀ (seq : List TblEntry), (∀ e ∈ seq, e ∈ t.entries) →
    ∀ fuel, (seq.flatMap (·.code)).length ≤ fuel → toTextAux t fuel (seq.flatMap (·.code)) = .ok (seq.flatMap (·.text))
  | [], _, fuel, _ => by cases fuel <;> rfl
  | e :: rest, hmem, fuel, hfuel => by
    have he : e ∈ t.entries := hmem e List.mem_cons_self
    have hpos : 0 < e.code.length := List.length_pos_iff.mpr (hd.nonEmpty e he)
    rw [List.flatMap_cons, List.length_append] at hfuel
    obtain ⟨fuel, rfl⟩ : ∃ f, fuel = f + 1 := ⟨fuel - 1, by omega⟩
    rw [List.flatMap_cons, List.flatMap_cons,
      toTextAux_found t fuel (by intro h; rw [List.append_eq_nil_iff] at h; exact hd.nonEmpty e he h.1)
        (tryLenBytes_code hd he _) (hd.noIgnore e he),
      List.drop_left' rfl, roundtrip_aux t hd rest (fun x hx => hmem x (List.mem_cons_of_mem _ hx)) fuel (by omega)]
    rfl

/-- **decode round trip**: over a decodable table, decoding the concatenated codes of any sequence of entries
    returns the concatenation of their texts -/
theorem roundtrip (t : Tbl) (hd : Decodable t) (seq : List TblEntry) (hmem : ∀ e ∈ seq, e ∈ t.entries) :
    t.toText (seq.flatMap (·.code)) = .ok (seq.flatMap (·.text)) :=
  roundtrip_aux t hd seq hmem _ (Nat.le_refl _)

/-- non-vacuity: the table `01=a 02=b 0304=ab` is decodable, and the bytes of `a, ab, b` decode to `aabb` -/
example :
    let es : List TblEntry := [⟨['a'], [1], none⟩, ⟨['b'], [2], none⟩, ⟨['a', 'b'], [3, 4], none⟩]
    (Tbl.toText ⟨es, 2, 2⟩ [1, 3, 4, 2]).toOption = some ['a', 'a', 'b', 'b'] := by decide +kernel

/-- **what `to_bytes` emits is the codes of a sequence of table entries** (for strings without the `[` of a
    raw-byte escape): the texts of those entries are what is left of the string when the characters that start no
    entry are dropped, and the whole string when each of its characters is itself a table text. -/
theorem toBytesAux_entries (t : Tbl) (textLen : Nat) : ∀ (fuel : Nat) (rem : List Char), '[' ∉ rem →
    rem.length ≤ fuel →
    ∃ seq : List TblEntry, (∀ e ∈ seq, e ∈ t.entries) ∧ toBytesAux t textLen fuel rem = .ok (seq.flatMap (·.code)) ∧
      (seq.flatMap (·.text)).Sublist rem ∧
      ((∀ c ∈ rem, (tblLookup t.entries [c]).isSome) → 1 ≤ min textLen t.maxTextLen → seq.flatMap (·.text) = rem) := by
  intro fuel
  induction fuel with
  | zero =>
    intro rem _ h0
    obtain rfl := List.length_eq_zero_iff.mp (Nat.le_zero.mp h0)
    exact ⟨[], nofun, rfl, .slnil, fun _ _ => rfl⟩
  | succ f ih =>
    intro rem hb hf
    rw [toBytesAux_succ]
    cases rem with
    | nil => exact ⟨[], nofun, rfl, .slnil, fun _ _ => rfl⟩
    | cons a r =>
      rw [if_neg (by simp)]
      rcases encStep_plain t textLen hb with ⟨e, hem, n, hetext, hs⟩ | ⟨hs, hnone⟩
      · have hn := encStep_pos hs
        obtain ⟨seq, hmem, hok, hsub, hall⟩ := ih ((a :: r).drop n) (fun h => hb (List.mem_of_mem_drop h))
          (by rw [List.length_drop]; omega)
        refine ⟨e :: seq, List.forall_mem_cons.mpr ⟨hem, hmem⟩, by rw [hs]; simp only [hok]; rfl, ?_, fun hc hk => ?_⟩
        · rw [List.flatMap_cons, hetext]
          conv => rhs; rw [← List.take_append_drop n (a :: r)]
          exact .append (.refl _) hsub
        · rw [List.flatMap_cons, hetext, hall (fun c hcm => hc c (List.mem_of_mem_drop hcm)) hk,
            List.take_append_drop]
      · obtain ⟨seq, hmem, hok, hsub, _⟩ := ih r (fun h => hb (List.mem_cons_of_mem _ h))
          (by rw [List.length_cons] at hf; omega)
        refine ⟨seq, hmem, by rw [hs]; simp only [List.drop_one, List.tail_cons, hok]; rfl,
          hsub.trans (List.sublist_cons_self a r), fun hc hk => ?_⟩
        have h1 : (tblLookup t.entries ((a :: r).take 1)).isSome := hc a List.mem_cons_self
        rw [hnone 1 (Nat.le_refl 1) hk] at h1; cases h1

/-- **C18 round trip, composed**: over a decodable table (as `mkTable` builds it), a string without `[` in
    which every character is itself a table text is returned unchanged by `to_text (to_bytes s)` — whatever longer
    entries the table also has, and whichever of them the longest-match encoder picked. -/
theorem decode_encode (t : Tbl) (hd : Decodable t)
    (hmax : t.maxTextLen = (t.entries.map (·.text.length)).foldl max 0) (text : List Char)
    (hb : '[' ∉ text) (hc : ∀ c ∈ text, (tblLookup t.entries [c]).isSome) :
    ∃ bytes, t.toBytes text = .ok bytes ∧ t.toText bytes = .ok text := by
  obtain ⟨seq, hmem, hok, hsub, hall⟩ := toBytesAux_entries t text.length text.length text hb (Nat.le_refl _)
  refine ⟨seq.flatMap (·.code), by unfold Tbl.toBytes; exact hok, ?_⟩
  rw [roundtrip t hd seq hmem]
  cases text with
  | nil =>
    rw [List.sublist_nil.mp hsub]
  | cons a r =>
    have h1 : 1 ≤ min (a :: r).length t.maxTextLen := by
      have hs := hc a List.mem_cons_self
      cases hl : tblLookup t.entries [a] with
      | none => rw [hl] at hs; simp at hs
      | some c =>
        have := tblLookup_len hl
        rw [← hmax] at this
        simp only [List.length_cons, List.length_nil] at this ⊢
        omega
    rw [hall hc h1]

/-- a string over the single-character texts of a decodable table, decoded after encoding, in general: the
    characters that start no entry are lost, nothing else changes (`Sublist`) -/
theorem decode_encode_sublist (t : Tbl) (hd : Decodable t) (text : List Char) (hb : '[' ∉ text) :
    ∃ bytes out, t.toBytes text = .ok bytes ∧ t.toText bytes = .ok out ∧ out.Sublist text := by
  obtain ⟨seq, hmem, hok, hsub, _⟩ := toBytesAux_entries t text.length text.length text hb (Nat.le_refl _)
  exact ⟨seq.flatMap (·.code), seq.flatMap (·.text), by unfold Tbl.toBytes; exact hok, roundtrip t hd seq hmem, hsub⟩

/-- the table `mkTable` builds from a file is `Decodable` as soon as its entries are: `max_code_length` is computed
    so that it covers every code -/
theorem mkTable_decodable (lines : List (List Char)) (t : Tbl) (h : mkTable lines = .ok t)
    (noIgnore : ∀ e ∈ t.entries, e.ignore = none) (nonEmpty : ∀ e ∈ t.entries, e.code ≠ [])
    (unique : ∀ e1 ∈ t.entries, ∀ e2 ∈ t.entries, e1.code = e2.code → e1 = e2)
    (prefixFree : ∀ e1 ∈ t.entries, ∀ e2 ∈ t.entries, e1.code <+: e2.code → e1.code = e2.code) : Decodable t := by
  refine ⟨noIgnore, nonEmpty, unique, prefixFree, fun e he => ?_⟩
  rw [(mkTable_max h).2]
  exact foldl_max_ge _ 0 _ (.inl (List.mem_map_of_mem he))

/-- **C18 (round trip from the table file)**: for a table file that loads, whose entries have unique, non-empty,
    prefix-free codes and no `ignore` suffix, every string without `[` whose characters are each a table text
    satisfies `to_text(to_bytes(s)) = s`. -/
theorem C18_roundtrip_file (lines : List (List Char)) (t : Tbl) (h : mkTable lines = .ok t)
    (noIgnore : ∀ e ∈ t.entries, e.ignore = none) (nonEmpty : ∀ e ∈ t.entries, e.code ≠ [])
    (unique : ∀ e1 ∈ t.entries, ∀ e2 ∈ t.entries, e1.code = e2.code → e1 = e2)
    (prefixFree : ∀ e1 ∈ t.entries, ∀ e2 ∈ t.entries, e1.code <+: e2.code → e1.code = e2.code)
    (text : List Char) (hb : '[' ∉ text) (hc : ∀ c ∈ text, (tblLookup t.entries [c]).isSome) :
    ∃ bytes, t.toBytes text = .ok bytes ∧ t.toText bytes = .ok text :=
  decode_encode t (mkTable_decodable lines t h noIgnore nonEmpty unique prefixFree) (mkTable_max h).1 text hb hc

/-! non-vacuity: the table file `01=a 02=b 0304=ab` loads, and "aabb" is encoded as 01 03 04 02 and decoded back -/
private def tABfile : List (List Char) := ["01=a\n".toList, "02=b\n".toList, "0304=ab\n".toList]
example : (mkTable tABfile).toOption.map (fun t => ((t.toBytes "aabb".toList).toOption,
      ((t.toBytes "aabb".toList).toOption.map fun b => (t.toText b).toOption)))
    = some (some [1, 3, 4, 2], some (some "aabb".toList)) := by decide +kernel
example : (mkTable tABfile).toOption.map (fun t => "aabb".toList.all fun c => (tblLookup t.entries [c]).isSome) = some true := by
  decide +kernel

end A816.C18
