import A816.Proofs.Cpu
import A816.Props.C07
import A816.Props.C05
import A816.Proofs.LabelScopes
/-!
# C02 — Every label equals the address where the next byte is really emitted

On the model of the passes (after the F02 repair):

* `C02_labels`: whenever emission of a node list succeeds, every label node — and every `.incbin` node,
  whose start symbol is position-derived — was emitted at a run address equal to the value the label
  pass gave that name in the scope current at that point.  When the two cannot agree the emission fails
  (`label_moved_fails`) instead of producing shifted addresses.
* `next_byte_at_label`: the bytes emitted after a label (up to the next `*=`/`@=`) start exactly at that
  run address: a zero-length statement does not move the run address.
* `*_size_agree`: the size a statement is given while labels are resolved equals the number of bytes it
  emits, for every statement kind (data, `.ascii`, `.text`, `.incbin`, implied / relative / sized
  instructions with a suffix, and instructions with an inferred width **when the operand has the same
  value in both passes** — the only way the two can differ, which is what the check above catches).
-/
namespace A816.C02
open A816

/-- what the label check establishes for a node, in the resolver state it is emitted in: the label pass gave
    the name the run address, and the name *evaluates* to that address there -/
def LabelAt (n : Node) (r : Resolver) : Prop :=
  match n with
  | .label name => alookup name r.cur.labels = some (r.reloc.logical : Int) ∧ r.look name = .int (r.reloc.logical : Int)
  | .binary _ base => alookup base r.cur.labels = some (r.reloc.logical : Int) ∧ r.look base = .int (r.reloc.logical : Int)
  | _ => True

theorem emitNode_labelAt {env : Env} {n : Node} {r r1 : Resolver} {bs : List Nat}
    (h : emitNode env n r = .ok (r1, bs)) : LabelAt n r := by
  cases n <;> simp only [LabelAt]
  case label name | binary _ name =>
    obtain ⟨_, _, hc, _⟩ := Except.map_pair_ok h
    exact checkLabel_ok_iff.mp hc

/-- **C02 (labels)**: if a node list is emitted successfully, then at every label / incbin node the
    run address (recorded in the trace) equals the value the name has in the current scope. -/
theorem C02_labels (env : Env) (pre : List Node) (n : Node) (post : List Node) (st st' : EmitState)
    (h : emitLoop env (pre ++ n :: post) st = .ok st') :
    ∃ s1 s2, emitLoop env pre st = .ok s1 ∧ emitStep env n s1 = .ok s2 ∧ LabelAt n s1.r ∧
      ∃ bs, s2.trace = s1.trace ++ [⟨s1.r.reloc.logical, s1.blockAddr + s1.block.length, bs⟩] := by
  obtain ⟨s1, s2, h1, h2, _⟩ := emitLoop_split h
  obtain ⟨r1, bs, o⟩ := emitStep_spec h2
  exact ⟨s1, s2, h1, h2, emitNode_labelAt o.emit, bs, o.trace⟩

/-- **a label evaluates to its address**: in the state a label node is emitted in, an expression that is
    just the label's name evaluates to the run address (`LabelAt` unfolded for the evaluator's lookup). -/
theorem label_evaluates (env : Env) (name : String) (r r1 : Resolver) (bs : List Nat)
    (h : emitNode env (.label name) r = .ok (r1, bs)) : r.look name = .int (r.reloc.logical : Int) :=
  (emitNode_labelAt h).2

/-- a label hidden by a `=` symbol / block parameter of the same name in its scope fails too -/
theorem label_hidden_fails (env : Env) (name : String) (r : Resolver)
    (h : r.look name ≠ .int (r.reloc.logical : Int)) : ∃ e, emitNode env (.label name) r = .error e := by
  cases hr : emitNode env (.label name) r with
  | error e => exact ⟨e, rfl⟩
  | ok p => obtain ⟨r1, bs⟩ := p; exact absurd (label_evaluates env name r r1 bs hr) h

/-- **fails instead of shifting**: a label whose resolved value differs from the run address makes the
    emission fail with a `NodeError`. -/
theorem label_moved_fails (env : Env) (name : String) (r : Resolver)
    (h : alookup name r.cur.labels ≠ some (r.reloc.logical : Int)) :
    emitNode env (.label name) r = .error (.node "label-moved" (-1)) := by
  simp [emitNode, checkLabel, h, Except.map]

/-- a statement that emits nothing and is not a position directive leaves the run address where it is:
    the first byte emitted after a label is placed at the label's address -/
theorem next_byte_at_label (env : Env) (n : Node) (st st' : EmitState) (h : emitStep env n st = .ok st')
    (r1 : Resolver) (hem : emitNode env n st.r = .ok (r1, [])) (hsame : r1.reloc = st.r.reloc) :
    st'.r.reloc = st.r.reloc ∧ (n.isCodePos = false → st'.blockAddr + st'.block.length = st.blockAddr + st.block.length) := by
  obtain ⟨r1', bs, o⟩ := emitStep_spec h
  cases hem.symm.trans o.emit
  refine ⟨by rw [o.same rfl, hsame], fun hn => ?_⟩
  obtain ⟨hb, ha, _⟩ := o.kept hn
  rw [hb, ha, List.append_nil]

/-- the label pass records the run address: `pc_after` of a label stores the current address -/
theorem label_pass_value (env : Env) (name : String) (r r1 : Resolver) (pc pc' : Address)
    (h : pcAfter env (.label name) r pc = .ok (r1, pc')) : pc' = pc ∧ r1 = r.addLabel name pc.logical := by
  simp only [pcAfter, Except.ok.injEq, Prod.mk.injEq] at h
  exact ⟨h.2.symm, h.1.symm⟩

/-- an accepted sized instruction is its opcode byte and `guessSize` operand bytes (the suffix width, or the width inferred
    from the value): both passes agree when the operand has the same inferred width in both -/
theorem sized_length {e : OpEntry} {sfx : Option Nat} {v : Int} {bs : List Nat} (hk : e.kind = .sized)
    (h : emitEntry e sfx (some v) = .ok bs) (hw : guessSize sfx v = 1 ∨ guessSize sfx v = 2 ∨ guessSize sfx v = 3) :
    bs.length = 1 + guessSize sfx v := by
  obtain ⟨op, b, vb, _, hp, hev, rfl⟩ := emitEntry_sized hk h
  rw [List.length_append, packB_length hp, (emitValue_le _ v vb hw hev).1, C07.leBytes_length]

/-- implied instruction: one byte in both passes -/
theorem implied_size_agree {e : OpEntry} {sfx : Option Nat} {bs : List Nat} (hk : e.kind = .implied)
    (h : emitEntry e sfx none = .ok bs) : bs.length = 1 := by
  obtain ⟨op, _, hp⟩ := emitEntry_implied hk h
  exact packB_length hp

/-- relative branch: two bytes in both passes -/
theorem relative_size_agree {r : Resolver} {e : OpEntry} {v : Int} {bs : List Nat}
    (h : emitRelative r e v = .ok bs) : bs.length = 2 := by
  obtain ⟨_, _, _, _, _, _, _, _, _, _, _, _, hbs⟩ := C05.C05_encode r e v bs h
  rw [hbs]; rfl

/-- `.text`: the same table encoding gives the size and the bytes -/
theorem text_size_agree (env : Env) (s : String) (tbl : Option Tbl) (info : Tok) (r r1 r2 : Resolver) (pc pc' : Address)
    (bs : List Nat) (hp : pcAfter env (.text s tbl info) r pc = .ok (r1, pc'))
    (he : emitNode env (.text s tbl info) r2 = .ok (r2, bs)) : pc.add bs.length = some pc' := by
  simp only [emitNode] at he
  obtain ⟨_, tb, ht, rfl⟩ := Except.map_pair_ok he
  simp only [pcAfter, ht] at hp
  exact (addrAdd_map_ok hp).2

/-! `Program.resolve_labels` gives every statement an address by adding up sizes (`pc_after`); `Program.emit`
gives it the address reached by adding up emitted bytes.  `Agree` names the only ways a single node can make the
two differ — an operand whose *inferred* width differs between the passes, a `*=` / `@=` whose target evaluates
differently, a zero-length statement at an address that advancing by 0 would move (an address below its bank
window) — and `pass_addresses_agree` shows that these are the only ways: whenever every node of a list
satisfies `Agree` in the states the two passes reach it in, both passes reach every node at the same address. -/

/-- emission advances the run address by the emitted bytes (not at all for an empty emission) -/
def advance (a : Address) (bs : List Nat) : Except Err Address :=
  if bs.isEmpty then .ok a else addrAdd a bs.length

/-- the per-node side conditions (see above); `rp` / `re` are the resolver states of the label pass and of
    emission at that node, `pc` the address the label pass reached it at -/
def Agree (env : Env) (n : Node) (rp re : Resolver) (pc : Address) : Prop :=
  match n with
  | .opcode _ (some w) _ _ _ _ => w = 1 ∨ w = 2 ∨ w = 3
  | .opcode _ none _ _ (some ve) info =>
      ∀ v1 v2, getValue env rp ve info = .ok v1 → getValue env re ve info = .ok v2 → operandSize v1 = operandSize v2
  | .codePos e info | .reloc e info =>
      rp.getBus = re.getBus ∧ ∀ v1 v2, getValue env rp e info = .ok v1 → getValue env re e info = .ok v2 → v1 = v2
  | .data w _ _ => w = 0 → addrAdd pc 0 = .ok pc
  | .ascii s => asciiBytes s = [] → addrAdd pc 0 = .ok pc
  | .text s tbl info => textBytes s tbl info = .ok [] → addrAdd pc 0 = .ok pc
  | .binary content _ => content = [] → addrAdd pc 0 = .ok pc
  | _ => True

theorem advance_of_add {pc pc' : Address} {bs : List Nat} {k : Nat} (h : pc.add k = some pc') (hl : bs.length = k)
    (hz : bs = [] → addrAdd pc 0 = .ok pc) : advance pc bs = .ok pc' := by
  have ha : addrAdd pc bs.length = .ok pc' := by rw [hl, addrAdd, h]
  cases bs with
  | nil => exact (hz rfl).symm.trans ha
  | cons b t => exact ha

theorem advance_of_map {pc pc' : Address} {rp rp' : Resolver} {bs : List Nat} {k : Nat}
    (h : (addrAdd pc k).map (fun a => (rp, a)) = .ok (rp', pc')) (hl : bs.length = k) (hk : 0 < k) : advance pc bs = .ok pc' :=
  advance_of_add (addrAdd_map_ok h).2 hl fun e => by rw [e] at hl; cases hl; cases hk

/-- the nodes that emit nothing and take no room: `pc_after` returns the address it was given -/
def silent : Node → Bool
  | .label _ | .symbol _ _ | .argSymbol _ _ | .symbolConst _ _ | .includeIps _ | .scopeEnter | .scopePop | .table => true
  | _ => false

theorem silent_of_isSymbol {n : Node} (h : n.isSymbol = true) : silent n = true := by
  cases n <;> simp only [Node.isSymbol, Bool.false_eq_true] at h <;> rfl

theorem pcAfter_silent {env : Env} {n : Node} {r r' : Resolver} {pc pc' : Address} (hn : silent n = true)
    (h : pcAfter env n r pc = .ok (r', pc')) : pc' = pc := by
  cases n <;> simp only [silent, Bool.false_eq_true] at hn <;> simp only [pcAfter] at h
  all_goals repeat' split at h
  all_goals cases h <;> rfl

theorem emitNode_silent {env : Env} {n : Node} {r r' : Resolver} {bs : List Nat} (hn : silent n = true)
    (h : emitNode env n r = .ok (r', bs)) : bs = [] ∧ r'.reloc = r.reloc := by
  cases emitNode_step h with
  | enter | leave => exact ⟨rfl, rfl⟩
  | pos _ _ hp => rcases hp with rfl | rfl <;> cases hn
  | stay hm =>
    refine ⟨?_, rfl⟩
    cases n <;> simp only [silent, Bool.false_eq_true] at hn <;> simp only [emitNode] at h
    case scopeEnter | scopePop => cases hm
    case label => cases hc : checkLabel r _ r.reloc <;> rw [hc] at h <;> cases h; rfl
    all_goals cases h; rfl

theorem opcode_size_agree {env : Env} {mn : String} {size : Option Nat} {mode : AddrMode} {index : Option Idx}
    {value : Option PExpr} {info : Tok} {rp rp' re re' : Resolver} {pc pc' : Address} {bs : List Nat}
    (hag : Agree env (.opcode mn size mode index value info) rp re pc)
    (hp : pcAfter env (.opcode mn size mode index value info) rp pc = .ok (rp', pc'))
    (he : emitNode env (.opcode mn size mode index value info) re = .ok (re', bs)) : advance pc bs = .ok pc' := by
  obtain ⟨_, e, hem, hk⟩ := emitNode_opcode he
  simp only [pcAfter, hem] at hp
  rcases hk with ⟨hk, hb⟩ | ⟨hk, ve, v, rfl, hv, hb⟩ | ⟨hk, ve, v, rfl, hv, hb⟩ <;> simp only [hk] at hp
  · exact advance_of_map hp (implied_size_agree hk hb) Nat.one_pos
  · exact advance_of_map hp (relative_size_agree hb) (by decide)
  · cases size with
    | some w => exact advance_of_map hp (sized_length hk hb hag) (by omega)
    | none =>
      simp only at hp
      cases hv1 : getValue env rp ve info with
      | error er => rw [hv1] at hp; cases hp
      | ok v1 =>
        rw [hv1] at hp
        have hl := sized_length hk hb (operandSize_range v)
        exact advance_of_map hp (by rw [hl, hag v1 v hv1 hv]; rfl) (by omega)

/-- **sizes agree, node by node**: if the label pass gives a node the address `pc` and moves on to `pc'`, and
    emission of the same node at the same address yields `bs`, then advancing by `bs` arrives at `pc'` too. -/
theorem node_size_agree (env : Env) (n : Node) (rp rp' re re' : Resolver) (pc pc' : Address) (bs : List Nat)
    (hreloc : re.reloc = pc) (hag : Agree env n rp re pc)
    (hp : pcAfter env n rp pc = .ok (rp', pc')) (he : emitNode env n re = .ok (re', bs)) :
    advance re'.reloc bs = .ok pc' := by
  by_cases hs : silent n = true
  · obtain ⟨rfl, hr⟩ := emitNode_silent hs he
    rw [hr, hreloc, pcAfter_silent hs hp]; rfl
  cases emitNode_step he with
  | enter | leave => cases hs rfl
  | pos e info hn hv hb ha =>
    -- both passes evaluate the same target on the same bus
    rcases hn with rfl | rfl
    all_goals
      simp only [pcAfter] at hp
      cases hv1 : getValue env rp e info with
      | error er => rw [hv1] at hp; cases hp
      | ok v1 =>
        simp only [hv1, hag.1, hb, hag.2 v1 _ hv1 hv, ha] at hp
        cases hp; rfl
  | stay hm hpos =>
    rw [hreloc]
    cases n <;> simp only [silent, not_true_eq_false] at hs
    case codePos | reloc => cases hpos
    case binary c base =>
      have hb := (C07.incbin_bytes env c base re re bs he).2
      exact advance_of_add (C07.incbin_symbols env c base rp rp' pc pc' hp).1 (by rw [hb]) (fun e => hag (by rw [← hb, e]))
    case data w e info =>
      obtain ⟨_, hadd, hl⟩ := C07.data_size_agree env w e info rp rp' re pc pc' bs hp he
      exact advance_of_add hadd hl (fun e => hag (by rw [← hl, e]; rfl))
    case ascii s =>
      cases he
      exact advance_of_add (C07.ascii_size_agree env s rp rp' pc pc' hp).2 rfl hag
    case text s tbl info =>
      obtain ⟨_, tb, ht, rfl⟩ := Except.map_pair_ok he
      exact advance_of_add (text_size_agree env s tbl info rp rp' re pc pc' _ hp he) rfl fun e => hag (ht.trans (congrArg _ e))
    case opcode mn size mode index value info =>
      exact opcode_size_agree hag hp he

/-- after one iteration of the emission loop the run address is the one emission advanced to -/
theorem emitStep_reloc {env : Env} {n : Node} {st st' : EmitState} (h : emitStep env n st = .ok st') :
    ∃ r1 bs, emitNode env n st.r = .ok (r1, bs) ∧ advance r1.reloc bs = .ok st'.r.reloc := by
  obtain ⟨r1, bs, o⟩ := emitStep_spec h
  refine ⟨r1, bs, o.emit, ?_⟩
  cases bs with
  | nil => rw [o.same rfl]; rfl
  | cons b t =>
    obtain ⟨a', ha, hst⟩ := o.moved (List.cons_ne_nil b t)
    show addrAdd r1.reloc (b :: t).length = _
    rw [addrAdd, ha, hst]

/-- the side conditions along the two runs over a node list (the label pass skips `=` symbols) -/
def AgreeAll (env : Env) : List Node → Resolver → Address → EmitState → Prop
  | [], _, _, _ => True
  | n :: ns, rp, pc, st =>
    (n.isSymbol = false → Agree env n rp st.r pc) ∧
    ∀ rp' pc' st', (if n.isSymbol then (rp', pc') = (rp, pc) else pcAfter env n rp pc = .ok (rp', pc')) →
      emitStep env n st = .ok st' → AgreeAll env ns rp' pc' st'

/-- **the passes agree on every address**: label resolution (first loop of `resolve_labels`) and emission,
    started at the same address on the same node list, end at the same address — and (`pass_address_at`) reach
    every node at the same address — provided each node satisfies `Agree` where the passes meet it. -/
theorem pass_addresses_agree (env : Env) : ∀ (ns : List Node) (rp rp' : Resolver) (pc pc' : Address) (st st' : EmitState),
    st.r.reloc = pc → AgreeAll env ns rp pc st →
    passLoop env Node.isSymbol ns rp pc = .ok (rp', pc') → emitLoop env ns st = .ok st' → st'.r.reloc = pc' := by
  intro ns
  induction ns with
  | nil => intro rp rp' pc pc' st st' hr _ hp he; cases hp; cases he; exact hr
  | cons n ns ih =>
    intro rp rp' pc pc' st st' hr ⟨hn, hrest⟩ hp he
    rw [emitLoop_cons] at he
    obtain ⟨s1, hs, he⟩ := Except.bind_ok he
    obtain ⟨r1, bs, hem, hadv⟩ := emitStep_reloc hs
    rw [passLoop_cons] at hp
    split at hp
    · rename_i hsym
      obtain ⟨rfl, hr1⟩ := emitNode_silent (silent_of_isSymbol hsym) hem
      exact ih rp rp' pc pc' s1 st' ((Except.ok.inj hadv).symm.trans (hr1.trans hr)) (hrest rp pc s1 (by rw [if_pos hsym]) hs) hp he
    · rename_i hsym
      obtain ⟨⟨rp1, pc1⟩, hpa, hp⟩ := Except.bind_ok hp
      have h1 := node_size_agree env n rp rp1 st.r r1 pc pc1 bs hr (hn (by simpa using hsym)) hpa hem
      rw [hadv] at h1; cases h1
      exact ih rp1 rp' _ pc' s1 st' rfl (hrest rp1 _ s1 (by rw [if_neg hsym]; exact hpa) hs) hp he

theorem agreeAll_prefix {env : Env} {pre post : List Node} {rp : Resolver} {pc : Address} {st : EmitState}
    (h : AgreeAll env (pre ++ post) rp pc st) : AgreeAll env pre rp pc st := by
  induction pre generalizing rp pc st with
  | nil => trivial
  | cons m ms ih =>
    simp only [List.cons_append, AgreeAll] at h ⊢
    exact ⟨h.1, fun rp' pc' st' h1 h2 => ih (h.2 rp' pc' st' h1 h2)⟩

/-- **every statement is reached at the same address by both passes**: the address the label pass hands to
    the node at any position of the list is the run address emission has when it reaches that node — in
    particular the value a label is given is the address at which the bytes after it are assembled. -/
theorem pass_address_at (env : Env) (pre : List Node) (n : Node) (post : List Node)
    (rp rp' : Resolver) (pc pc' : Address) (st st' : EmitState)
    (hr : st.r.reloc = pc) (hag : AgreeAll env (pre ++ n :: post) rp pc st)
    (hp : passLoop env Node.isSymbol (pre ++ n :: post) rp pc = .ok (rp', pc'))
    (he : emitLoop env (pre ++ n :: post) st = .ok st') :
    ∃ r1 pc1 s1, passLoop env Node.isSymbol pre rp pc = .ok (r1, pc1) ∧ emitLoop env pre st = .ok s1 ∧
      s1.r.reloc = pc1 := by
  obtain ⟨r1, pc1, hp1, _⟩ := passLoop_split hp
  obtain ⟨s1, s2, he1, _, _⟩ := emitLoop_split he
  exact ⟨r1, pc1, s1, hp1, he1,
    pass_addresses_agree env pre rp r1 pc pc1 st s1 hr (agreeAll_prefix hag) hp1 he1⟩

/-- a label node therefore records, in the label pass, exactly the address emission later checks it against -/
theorem label_value_is_run_address (env : Env) (pre : List Node) (name : String) (post : List Node)
    (rp rp' : Resolver) (pc pc' : Address) (st st' : EmitState)
    (hr : st.r.reloc = pc) (hag : AgreeAll env (pre ++ .label name :: post) rp pc st)
    (hp : passLoop env Node.isSymbol (pre ++ .label name :: post) rp pc = .ok (rp', pc'))
    (he : emitLoop env (pre ++ .label name :: post) st = .ok st') :
    ∃ r1 pc1 s1, passLoop env Node.isSymbol pre rp pc = .ok (r1, pc1) ∧ emitLoop env pre st = .ok s1 ∧
      pcAfter env (.label name) r1 pc1 = .ok (r1.addLabel name s1.r.reloc.logical, pc1) := by
  obtain ⟨r1, pc1, s1, h1, h2, h3⟩ := pass_address_at env pre (.label name) post rp rp' pc pc' st st' hr hag hp he
  exact ⟨r1, pc1, s1, h1, h2, by simp [pcAfter, h3]⟩

/-- the zero-length side condition of `Agree` holds at every in-window ROM address and every RAM address -/
theorem zero_ok_rom (A : Address) (hA : A.WF) (wf : C04.BusWF A.bus) (hrom : A.mapping.RomWF)
    (hwin : Spec.inWindow A.mapping.mask A.logical) : addrAdd A 0 = .ok A := by
  simp [addrAdd, C04.add_zero_same A hA wf hrom hwin]

theorem zero_ok_ram (A : Address) (hA : A.WF) (hram : A.mapping.ram = true) : addrAdd A 0 = .ok A := by
  simp [addrAdd, C04.add_zero_ram A hA hram]

/-- nodes whose size is fixed by the node itself need no side condition at all -/
example (env : Env) (rp re : Resolver) (pc : Address) (info : Tok) (e : PExpr) :
    Agree env (.data 2 e info) rp re pc ∧ Agree env (.label "l") rp re pc ∧ Agree env .scopeEnter rp re pc ∧
    Agree env (.opcode "lda" (some 2) .direct none (some e) info) rp re pc := by
  refine ⟨?_, trivial, trivial, Or.inr (Or.inl rfl)⟩
  intro h; cases h

/-! ### no spurious rejection

The emission-time check of a label (`_check_label_address`, fix 9c644c7 / cb74936) must never fire on a program whose
sizes agree: if the passes agree on every node (`AgreeAll`), no later node visited in the label's scope and no `=` symbol
visited there defines the name, and it is not a code-block parameter of that scope, then the check succeeds.  `check_core`
is the statement for any nesting of scopes and both kinds of position-derived name; the flat case (node lists without scope
markers, every node visited in scope 0) and the two general theorems are instances. -/

open LabelCheck LabelScopes Replay Resolver in
/-- the emission-time check of a position-derived name succeeds: `n` is the node that defines `name` (a label or an
    `.incbin`), `(c, l)` is where the replay of the prefix arrives, `D` holds of the names no export of a named scope can be
    written under (needed only if the list leaves a scope) -/
theorem check_core (D : String → Prop) {env : Env} {pre : List Node} {n : Node} {name : String} (hn : Defines n name)
    {post : List Node} {r rL : Resolver}
    (hroot : r.current = 0)
    {c l : Nat} (hcl : replay r.scopes pre 0 0 = some (c, l)) (hc : c < r.scopes.size)
    (hD : .scopePop ∈ pre ++ n :: post → ∀ x, D x → NoDot x) (hdot : D name)
    (hcode : alookup name (r.scopeAt c).codeSymbols = none)
    (hfresh1 : name ∉ namesIn symNames Node.isSymbol r.scopes c post c l)
    (hfresh2 : name ∉ namesIn symNames Node.isLabelOrBinary r.scopes c (pre ++ n :: post) 0 0)
    (hres : resolveLabels env (pre ++ n :: post) r = .ok rL)
    (hag : AgreeAll env (pre ++ n :: post) { r with lastUsed := 0 } r.reloc ⟨rL, [], rL.pc, [], [], []⟩)
    {s1 : EmitState} (hemit : emitLoop env pre ⟨rL, [], rL.pc, [], [], []⟩ = .ok s1) :
    checkLabel s1.r name s1.r.reloc = .ok () := by
  rw [resolveLabels_bind] at hres
  obtain ⟨⟨r1, pcA⟩, hp1, hres⟩ := Except.bind_ok hres
  obtain ⟨⟨r2, pcB⟩, hp2, hres⟩ := Except.bind_ok hres
  cases hres
  -- the label pass writes `name ↦ pc1` into scope `c`, and nothing it visits there afterwards overwrites it
  obtain ⟨rA, pc1, hpre, hrepA, hlab, hcodeA, hag1, hsz1, hrel1⟩ :=
    pass1_def (D := D) hn (S := r.scopes) (r := { r with lastUsed := 0 }) (Agrees.refl _) rfl hD hp1
  rw [show ({ r with lastUsed := 0 } : Resolver).current = 0 from hroot, hcl] at hrepA
  simp only [Option.some.injEq, Prod.mk.injEq] at hrepA
  obtain ⟨rfl, rfl⟩ := hrepA
  obtain ⟨hl1, hs1⟩ := hlab hc hdot hfresh1
  -- the symbol pass writes no label, and into scope `c` no symbol of that name
  obtain ⟨k2, _, hag2, hsz2, hrel2⟩ := passLoop_keptAt (D := D) rA.current (r := resolverReset r1)
    (fun n _ => isLabelOrBinary_not_marker n) hD hag1 hsz1 hp2
  rw [no_labelNames_pass2] at k2
  -- emission of the prefix leaves the scope array alone and arrives in scope `c`
  obtain ⟨hsc, hrepE⟩ := emitLoop_scopes_replay env pre _ s1 hemit
  have hrepE' : replay r.scopes pre 0 0 = some (s1.r.current, s1.r.lastUsed) := by
    rw [← replay_congr r.scopes r2.scopes hag2 hsz2 pre]; exact hrepE
  rw [hcl] at hrepE'
  simp only [Option.some.injEq, Prod.mk.injEq] at hrepE'
  have hcurS : s1.r.cur = r2.scopeAt rA.current := by
    unfold Resolver.cur Resolver.scopeAt; rw [hsc, ← hrepE'.1]; rfl
  -- … at the address `pc1`
  have haddr := pass_addresses_agree env pre { r with lastUsed := 0 } rA r.reloc pc1 _ s1 (hrel2.trans hrel1)
    (agreeAll_prefix hag) hpre hemit
  have hR : (resolverReset r1).scopeAt rA.current = r1.scopeAt rA.current := rfl
  have hlabF : alookup name s1.r.cur.labels = some (s1.r.reloc.logical : Int) := by
    rw [hcurS, k2.labels name (by simp), hR, hl1, haddr]
  have hsymF : alookup name s1.r.cur.symbols = some (s1.r.reloc.logical : Int) := by
    rw [hcurS, k2.symbols name hfresh2 hdot, hR, hs1, haddr]
  have hcdF : alookup name s1.r.cur.codeSymbols = none := by
    rw [hcurS, k2.code, hR, hcodeA]; exact hcode
  exact checkLabel_ok_iff.mpr ⟨hlabF, by
    unfold Resolver.look; rw [valueFor_cur _ _ (.inr (by rw [hsymF]; rfl)), getItem, hcdF, hsymF]⟩

open LabelCheck in
/-- **the label check never fires on a flat program whose passes agree** -/
theorem no_spurious_rejection_flat (env : Env) (pre : List Node) (name : String) (post : List Node) (r rL : Resolver)
    (hflat : Flat (pre ++ .label name :: post))
    (hroot : r.current = 0) (hsize : 0 < r.scopes.size) (hpar : r.cur.parent = none)
    (hcode : alookup name r.cur.codeSymbols = none)
    (hfresh1 : name ∉ (post.filter fun n => !Node.isSymbol n).flatMap symNames)
    (hfresh2 : name ∉ ((pre ++ .label name :: post).filter fun n => !Node.isLabelOrBinary n).flatMap symNames)
    (hres : resolveLabels env (pre ++ .label name :: post) r = .ok rL)
    (hag : AgreeAll env (pre ++ .label name :: post) { r with lastUsed := 0 } r.reloc ⟨rL, [], rL.pc, [], [], []⟩)
    (s1 : EmitState) (hemit : emitLoop env pre ⟨rL, [], rL.pc, [], [], []⟩ = .ok s1) :
    checkLabel s1.r name s1.r.reloc = .ok () := by
  have hleaf : ∀ m ∈ pre, Replay.Node.isScopeMark m = false := fun m hm => by
    rw [← Replay.isMarker_eq]; exact hflat.append.1 m hm
  refine check_core (fun _ => True) (.inl rfl) hroot (c := 0) (l := 0) (Replay.replay_leaves hleaf) hsize
    (fun hm => absurd (hflat _ hm) (by simp [isMarker])) trivial ?_ ?_ ?_ hres hag hemit
  · rw [← hroot]; exact hcode
  · rw [LabelScopes.namesIn_flat hflat.append.2.cons.2]; exact hfresh1
  · rw [LabelScopes.namesIn_flat hflat]; exact hfresh2

/-- the side conditions on names are decidable and met by an ordinary flat program: `a: .ascii 'x' / v = … / b:` -/
example : LabelCheck.Flat [Node.label "a", .ascii "x", .symbolConst "v" 1, .label "b"] ∧
    "a" ∉ ([Node.ascii "x", .symbolConst "v" 1, .label "b"].filter fun n => !Node.isSymbol n).flatMap LabelCheck.symNames ∧
    "a" ∉ ([Node.label "a", .ascii "x", .symbolConst "v" 1, .label "b"].filter fun n => !Node.isLabelOrBinary n).flatMap LabelCheck.symNames := by
  refine ⟨?_, by decide +kernel, by decide +kernel⟩
  intro n hn
  simp only [List.mem_cons, List.not_mem_nil, or_false] at hn
  rcases hn with rfl | rfl | rfl | rfl <;> rfl


open LabelCheck LabelScopes Replay in
/-- **the label check never fires on a program whose passes agree** (any nesting of blocks, macros, loops, named
    scopes): let a label node stand after the prefix `pre` of a node list; `(c, l)` is where the positional replay of
    `pre` from the root arrives, i.e. the scope the label is visited in.  If the passes agree on every node (`AgreeAll`),
    the name contains no `.`, no later node visited in scope `c` defines it, no `=` symbol visited in scope `c`
    defines it, and it is not a code-block parameter of scope `c`, then the emission-time check of the label succeeds. -/
theorem no_spurious_rejection (env : Env) (pre : List Node) (name : String) (post : List Node) (r rL : Resolver)
    (hroot : r.current = 0) (hsize : 0 < r.scopes.size) (hS : ParentsOk r.scopes)
    (c l : Nat) (hcl : replay r.scopes pre 0 0 = some (c, l))
    (hdot : NoDot name)
    (hcode : alookup name (r.scopeAt c).codeSymbols = none)
    (hfresh1 : name ∉ namesIn symNames Node.isSymbol r.scopes c post c l)
    (hfresh2 : name ∉ namesIn symNames Node.isLabelOrBinary r.scopes c (pre ++ .label name :: post) 0 0)
    (hres : resolveLabels env (pre ++ .label name :: post) r = .ok rL)
    (hag : AgreeAll env (pre ++ .label name :: post) { r with lastUsed := 0 } r.reloc ⟨rL, [], rL.pc, [], [], []⟩)
    (s1 : EmitState) (hemit : emitLoop env pre ⟨rL, [], rL.pc, [], [], []⟩ = .ok s1) :
    checkLabel s1.r name s1.r.reloc = .ok () :=
  check_core NoDot (.inl rfl) hroot hcl (replay_lt hS hsize hcl) (fun _ _ h => h) hdot hcode hfresh1 hfresh2 hres hag hemit

open LabelCheck LabelScopes Replay in
/-- the same for the start symbol of an `.incbin` (the other position-derived symbol the check guards) -/
theorem no_spurious_rejection_incbin (env : Env) (pre : List Node) (content : List Nat) (base : String) (post : List Node) (r rL : Resolver)
    (hroot : r.current = 0) (hsize : 0 < r.scopes.size) (hS : ParentsOk r.scopes)
    (c l : Nat) (hcl : replay r.scopes pre 0 0 = some (c, l))
    (hdot : NoDot base)
    (hcode : alookup base (r.scopeAt c).codeSymbols = none)
    (hfresh1 : base ∉ namesIn symNames Node.isSymbol r.scopes c post c l)
    (hfresh2 : base ∉ namesIn symNames Node.isLabelOrBinary r.scopes c (pre ++ .binary content base :: post) 0 0)
    (hres : resolveLabels env (pre ++ .binary content base :: post) r = .ok rL)
    (hag : AgreeAll env (pre ++ .binary content base :: post) { r with lastUsed := 0 } r.reloc ⟨rL, [], rL.pc, [], [], []⟩)
    (s1 : EmitState) (hemit : emitLoop env pre ⟨rL, [], rL.pc, [], [], []⟩ = .ok s1) :
    checkLabel s1.r base s1.r.reloc = .ok () :=
  check_core NoDot (.inr ⟨content, rfl⟩) hroot hcl (replay_lt hS hsize hcl) (fun _ _ h => h) hdot hcode hfresh1 hfresh2 hres hag hemit

open A816 LabelCheck LabelScopes Replay in
/-- the side conditions distinguish scopes: in `{ a: } a:` the inner `a` (visited in scope 1) is not disturbed by the outer
    `a` (visited in scope 0), and the replay of the prefix `[ScopeNode]` from the root arrives in scope 1 -/
example :
    let S : Array ScopeRec := #[{ kind := .plain, parent := none }, { kind := .plain, parent := some 0 }]
    replay S [Node.scopeEnter] 0 0 = some (1, 1) ∧ ParentsOk S ∧ NoDot "a" ∧
    "a" ∉ namesIn symNames Node.isSymbol S 1 [Node.scopePop, .label "a"] 1 1 ∧
    "a" ∉ namesIn symNames Node.isLabelOrBinary S 1 [Node.scopeEnter, .label "a", .scopePop, .label "a"] 0 0 := by
  refine ⟨by decide +kernel, ?_, by unfold NoDot; decide +kernel, by decide +kernel, by decide +kernel⟩
  intro i p h
  match i with
  | 0 => simp at h
  | 1 =>
    have : p = 0 := by simpa using h.symm
    subst this; decide +kernel
  | (n + 2) =>
    have : ¬ (n + 2 < 2) := by omega
    simp [Array.getD, this] at h
    cases h
end A816.C02
