import A816.Model.Codegen
import A816.Proofs.NodeSteps
/-!
# C10 — Conditional and loop directives equal the hand-expanded program

On the code-generation model (`generate_if`, `generate_for`), for every condition, every bound and
every body:

* `.if` generates exactly the nodes of its first block when the condition evaluates to non-zero
  (negative included), exactly those of its else block — or nothing — when it evaluates to zero or
  when the evaluation raises `SymbolNotDefined` / `KeyError` (an undefined name counts as false);
  the chosen block is generated in the current scope (no scope is opened), i.e. as if its
  statements were written in place.  Any other evaluation error propagates (the directive never
  silently picks a branch).
* `.for v := a, b` generates, for `k = a, a+1, …, b−1` in that order, a fresh internal scope
  (`scopeEnter … scopePop`) that first binds `v = k` and then holds the nodes of the body; nothing
  when `b ≤ a`.
-/
namespace A816.C10
open A816

abbrev runG {α} (m : GM α) (st : GenState) : Except Err (α × GenState) := m.run st

theorem if_true (env : Env) (fuel : Nat) (c : PExpr) (t : List Ast) (e : Option (List Ast)) (i : Tok)
    (st : GenState) (v : Int) (hv : evalP env st.r c = .ok v) (hne : v ≠ 0) :
    runG (gen env (fuel + 1) (.ifNode c t e i)) st = runG (genList env fuel t) st := by
  simp [runG, gen, genList, hv, hne]

theorem if_false (env : Env) (fuel : Nat) (c : PExpr) (t : List Ast) (e : Option (List Ast)) (i : Tok)
    (st : GenState) (hv : evalP env st.r c = .ok 0) :
    runG (gen env (fuel + 1) (.ifNode c t e i)) st =
      match e with
      | some eb => runG (genList env fuel eb) st
      | none => .ok ([], st) := by
  cases e <;> simp [runG, gen, genList, hv] <;> rfl

/-- an undefined name in the condition counts as false -/
theorem if_undefined (env : Env) (fuel : Nat) (c : PExpr) (t : List Ast) (e : Option (List Ast)) (i : Tok)
    (st : GenState) (hv : (∃ x, evalP env st.r c = .error (.symbolNotDefined x)) ∨ evalP env st.r c = .error .key) :
    runG (gen env (fuel + 1) (.ifNode c t e i)) st =
      match e with
      | some eb => runG (genList env fuel eb) st
      | none => .ok ([], st) := by
  rcases hv with ⟨x, hv⟩ | hv <;> cases e <;> simp [runG, gen, genList, hv] <;> rfl

/-- every other evaluation error propagates: the directive does not pick a branch -/
theorem if_error_propagates (env : Env) (fuel : Nat) (c : PExpr) (t : List Ast) (e : Option (List Ast)) (i : Tok)
    (st : GenState) (er : Err) (hv : evalP env st.r c = .error er) (h1 : er ≠ .key)
    (h2 : ∀ x, er ≠ .symbolNotDefined x) :
    runG (gen env (fuel + 1) (.ifNode c t e i)) st = .error er := by
  simp only [runG, gen, StateT.run_bind, StateT.run_get, pure_bind, hv]
  rfl

/-- one loop iteration: a fresh internal scope, entered, that binds the variable and holds the body -/
def iteration (env : Env) (fuel : Nat) (sym : String) (body : List Ast) (k : Int) : GM (List Node) :=
  iterationWith (gen env fuel) sym body k

theorem iteration_shape (env : Env) (fuel : Nat) (sym : String) (body : List Ast) (k : Int) (st st' : GenState)
    (ns : List Node) (h : runG (iteration env fuel sym body k) st = .ok (ns, st')) :
    ∃ inner, ns = Node.scopeEnter :: Node.symbolConst sym k :: inner ++ [Node.scopePop] := by
  simp only [runG, iteration, iterationWith, StateT.run_bind] at h
  obtain ⟨p1, _, h⟩ := Except.bind_ok h
  obtain ⟨p2, _, h⟩ := Except.bind_ok h
  obtain ⟨p3, _, h⟩ := Except.bind_ok h
  obtain ⟨p4, _, h⟩ := Except.bind_ok h
  cases h
  exact ⟨p3.1, rfl⟩

/-- **`.for` unrolls**: both bounds are evaluated in the current scope; then one iteration for each
    `k = a, a+1, …, b−1` in increasing order (none when `b ≤ a`), concatenated -/
theorem for_unrolls (env : Env) (fuel : Nat) (sym : String) (lo hi : PExpr) (body : List Ast) (i : Tok)
    (st : GenState) (a b : Int) (ha : evalP env st.r lo = .ok a) (hb : evalP env st.r hi = .ok b) :
    runG (gen env (fuel + 1) (.forNode sym lo hi body i)) st =
      runG (do
        let parts ← (List.range (b - a).toNat).mapM fun (j : Nat) => iteration env fuel sym body (a + (j : Nat))
        pure parts.flatten) st := by
  simp [runG, gen, gEval, iteration, ha, hb]

theorem for_count_eq (a b : Int) (h : a ≤ b) : ((b - a).toNat : Int) = b - a := by omega

/-- nothing at all is generated when `b ≤ a` -/
theorem for_empty (env : Env) (fuel : Nat) (sym : String) (lo hi : PExpr) (body : List Ast) (i : Tok)
    (st : GenState) (a b : Int) (ha : evalP env st.r lo = .ok a) (hb : evalP env st.r hi = .ok b) (hle : b ≤ a) :
    runG (gen env (fuel + 1) (.forNode sym lo hi body i)) st = .ok ([], st) := by
  rw [for_unrolls env fuel sym lo hi body i st a b ha hb, show (b - a).toNat = 0 by omega]
  simp [runG]; rfl

end A816.C10
