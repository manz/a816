import A816.Model.Program
import A816.Proofs.ScanTotal
import A816.Proofs.ParseFuel
import A816.Model.OpsParse
/-!
# C15 — Every input terminates

Every Python `while` loop of the scanner and every loop and recursion of the parser is modelled with a fuel;
`Err.outOfFuel` means *the Python loop would not terminate*.  Termination is the family of theorems "`outOfFuel` is
unreachable":

* **`scan_terminates`** (whole scanner, from `Proofs/ScanTotal.lean`): for every configuration, both initial states and
  every input text, `Scanner.scan` returns tokens or raises a `ScannerException`.  Behind it: every scanner primitive and
  state function leaves the input unchanged, never decreases `pos` and does not run out of its fuel
  (`acceptRun_terminates` at every call site of the code, `acceptRun_sites` — the `"\0"` sentinel of the negated run
  `"\n\0"` matters —, `lineComment_terminates`, `blockComment_terminates` after the F15 repair, `quoted_terminates`), and an
  iteration of the loop of `Scanner.scan` fails, strictly advances `pos` or emits a token (`scanLoop_progress`, the
  no-progress guard of the second F15 repair), so the outer loop runs at most `len(input)` times.  The basic lemmas live in
  `Proofs/ScanBasic.lean` (namespace `ScanB`) and are restated here under their names.
* **`parse_terminates`** (whole parser, from `Proofs/ParseFuel.lean`): for every token array, when no source file can be
  included, `parse_initial` with `2·|tokens| + 6` fuel returns or raises a real exception — every loop and every recursion
  of `parser_states.py` is bounded by the number of tokens left; `parse_decl_consumes` is the progress fact behind it, and
  `parseSource_terminates` composes it with `scan_terminates` for a whole source text.  With includable files the nesting
  of `.include` is bounded by the fuel only (a file that includes itself ends in Python's `RecursionError`); that part
  stays with the streams.
* the table encoder (`C18.toBytes_fuel`) and the IPS writer (`ipsWrite_fuel`) do not run out of their fuel; code
  generation is structurally recursive on the nesting budget (`gen_budget_exhausted`), loops run their evaluated count.
-/
namespace A816.C15
open A816 Scan ScanB

theorem next_pos_lt (s : Scan) (h : s.pos < s.input.size) : (s.next).1.pos = s.pos + 1 :=
  ScanB.next_pos_lt s h

theorem next_pos_ge (s : Scan) (h : ¬ s.pos < s.input.size) : (s.next).1 = s ∧ (s.next).2 = none :=
  ScanB.next_pos_ge s h

theorem next_some_iff (s : Scan) : (s.next).2 = none ↔ ¬ s.pos < s.input.size :=
  ScanB.next_some_iff s

theorem peek_eof (s : Scan) (h : ¬ s.pos < s.input.size) : s.peek = '\x00' :=
  ScanB.peek_eof s h

theorem accept_eof (s : Scan) (cands : List Char) (negate : Bool) (h : ¬ s.pos < s.input.size) :
    (s.accept cands negate).2 = eofAccepts cands negate :=
  ScanB.accept_eof s cands negate h

theorem accept_step (s : Scan) (cands : List Char) (negate : Bool) :
    (s.accept cands negate).1.input = s.input ∧
    ((s.accept cands negate).2 = true → s.pos < s.input.size → (s.accept cands negate).1.pos = s.pos + 1) ∧
    s.pos ≤ (s.accept cands negate).1.pos :=
  ScanB.accept_step s cands negate

/-- **`accept_run` terminates** when it does not accept at end of input: the fuel `len − pos + 1` suffices,
    the input is unchanged and `pos` only grows. -/
theorem acceptRun_terminates (cands : List Char) (negate : Bool) (he : eofAccepts cands negate = false) :
    ∀ (n : Nat) (s : Scan), s.input.size - s.pos ≤ n →
      ∃ s', acceptRunAux cands negate n s = some s' ∧ s'.input = s.input ∧ s.pos ≤ s'.pos :=
  ScanB.acceptRun_terminates cands negate he

/-- every `accept_run` call site of the code satisfies the condition (kernel-checked on the literal
    candidate strings of the model) -/
theorem acceptRun_sites :
    eofAccepts identChars false = false ∧ eofAccepts digitChars false = false ∧
    eofAccepts [' '] false = false ∧ eofAccepts [' ', '\t'] false = false ∧ eofAccepts [' ', '\t', '\n'] false = false ∧
    eofAccepts (chars "01") false = false ∧ eofAccepts (chars "012345678") false = false ∧
    eofAccepts (chars "0123456789ABCDEFabcdef") false = false ∧
    eofAccepts (chars "abcdefghijklmnopqrstuvwxyz_") false = false ∧
    eofAccepts ['\n', '\x00'] true = false :=
  ScanB.acceptRun_sites

/-- `;` comment loop: stops at the newline or at end of input -/
theorem lineComment_terminates : ∀ (n : Nat) (s : Scan), s.input.size - s.pos < n →
    ∃ s', lineCommentLoop n s = .ok s' ∧ s'.input = s.input ∧ s.pos ≤ s'.pos :=
  ScanB.lineComment_terminates

theorem acceptPrefix_step (s : Scan) (pre : List Char) :
    (s.acceptPrefix pre).1.input = s.input ∧ s.pos ≤ (s.acceptPrefix pre).1.pos :=
  ScanB.acceptPrefix_step s pre

/-- `/* … */` loop (F15 repair): every iteration consumes a character or ends; end of input raises the error
    built when the comment was opened -/
theorem blockComment_terminates (posErr : Err) : ∀ (n : Nat) (s : Scan), s.input.size - s.pos < n →
    (∃ s', blockCommentLoop posErr n s = .ok s' ∧ s'.input = s.input ∧ s.pos ≤ s'.pos) ∨
    (∃ s', blockCommentLoop posErr n s = .error (posErr, s')) :=
  ScanB.blockComment_terminates posErr

/-- quoted-string loop: every iteration consumes at least one character; newline / end of input raise -/
theorem quoted_terminates (posErr : Err) : ∀ (n : Nat) (s : Scan) (c : Option Char),
    s.input.size - s.pos + 1 < n →
    (∃ s', quotedLoop posErr n s c = .ok s') ∨ (∃ s', quotedLoop posErr n s c = .error (posErr, s')) :=
  ScanB.quoted_terminates posErr

/-- **the outer loop is bounded**: an iteration of the loop of `Scanner.scan` whose state function returns
    either made progress (consumed input or emitted a token) and the loop continues with one iteration less,
    or (no-progress guard of the second F15 repair) raises — it is never repeated on the same state. -/
theorem scanLoop_progress (cfg : ScanCfg) (st : ScanState) (n : Nat) (s s' : Scan) (h : s.pos < s.input.size)
    (hr : runState cfg st s = .ok s') (hprog : ¬ (s'.pos = s.pos ∧ s'.toks.size = s.toks.size)) :
    scanLoop cfg st (n + 1) s = scanLoop cfg st n s' :=
  ScanB.scanLoop_progress cfg st n s s' h hr hprog

theorem scanLoop_no_progress_raises (cfg : ScanCfg) (st : ScanState) (n : Nat) (s s' : Scan) (h : s.pos < s.input.size)
    (hr : runState cfg st s = .ok s') (hprog : s'.pos = s.pos ∧ s'.toks.size = s.toks.size) :
    scanLoop cfg st (n + 1) s =
      .error (((s'.next).1).err ("Invalid Input " ++ ((s'.next).1).slice ((s'.next).1).start ((s'.next).1).input.size), (s'.next).1) :=
  ScanB.scanLoop_no_progress_raises cfg st n s s' h hr hprog

/-- the loop would *not* terminate for a negated run whose candidates lack the `"\0"` sentinel: the
    model exhibits Python's non-termination (this is why `lex_opcode` spells the set `"\n\0"`) -/
example : (({ input := "ab".toList.toArray } : Scan).acceptRun ['\n'] true).toOption = none := by decide +kernel

/-- **C15 (scanner): every input terminates.**  For every scanner configuration (mnemonic / keyword
    tables), both lexing states (`lex_initial` for sources, `lex_expression` for `-D` values and
    `eval_expression_str`), every file index and every text, `Scanner.scan` returns its tokens or raises a
    `ScannerException`: the model never answers `outOfFuel`, i.e. no loop of `scanner.py` /
    `scanner_states.py` runs forever and the outer loop calls a state function at most `len(input)` times. -/
theorem scan_terminates (cfg : ScanCfg) (st : ScanState) (file : Nat) (input : List Char) :
    (scan cfg st file input).error ≠ some .outOfFuel :=
  ScanT.scan_total cfg st file input

/-- every state function either raises a real exception or returns a later state of the same input, and a
    return with `pos` unchanged has emitted nothing (so the no-progress guard fires only when nothing happened) -/
theorem state_call_progress (cfg : ScanCfg) (st : ScanState) (s s' : Scan) (h : runState cfg st s = .ok s') :
    s'.input = s.input ∧ s.pos ≤ s'.pos ∧ (s'.pos = s.pos → s'.toks.size = s.toks.size) := by
  have hp := ScanT.prog_runState cfg st s
  rw [h] at hp
  exact ⟨hp.1.input, hp.1.pos, hp.2⟩

theorem state_call_no_fuel (cfg : ScanCfg) (st : ScanState) (s s' : Scan) (e : Err)
    (h : runState cfg st s = .error (e, s')) : e ≠ .outOfFuel := by
  have hp := ScanT.prog_runState cfg st s
  rw [h] at hp
  exact hp

/-- non-vacuity: inputs that used to hang (`/*` before 6bef315, `1 $ 2` before ab4c2d0) now raise -/
example : (scan ⟨["lda"], [], []⟩ .initial 0 "/* never closed".toList).error = some (.scan "Unterminated Comment" 0 0) := by
  decide +kernel
example : ((scan ⟨[], [], []⟩ .expression 0 "1 $ 2".toList).error.map Err.tag) = some "ScannerException" := by
  decide +kernel


/-- **C15 (parser)**: for every token array and every parser configuration, with no includable source file,
    `parse_initial` started anywhere in the array with `2·(tokens left) + 6` fuel never answers `outOfFuel`:
    no loop or recursion of the parser runs more often than there are tokens left. -/
theorem parse_terminates (cfg : ParseCfg) (toks : Array Tok) (fs : FS) (hfs : fs.text = []) (pos fuel : Nat)
    (hf : 2 * (toks.size - pos) + 6 ≤ fuel) :
    (parseProgram cfg fuel).run ⟨toks, pos, fs⟩ ≠ .error .outOfFuel :=
  ((ParseFuel.all cfg toks fs hfs fuel).prog pos hf).no_fuel

/-- a successful `parse_decl` leaves the token array alone and consumed at least one token that lies inside it
    (what makes `while p.current().type != EOF: parse_decl(p)` and the block loop terminate) -/
theorem parse_decl_consumes (cfg : ParseCfg) (toks : Array Tok) (fs : FS) (hfs : fs.text = []) (pos fuel : Nat)
    (hf : 2 * (toks.size - pos) + 5 ≤ fuel) (a : Option Ast) (st' : PState)
    (h : (parseDecl cfg fuel).run ⟨toks, pos, fs⟩ = .ok (a, st')) :
    st'.toks = toks ∧ st'.fs = fs ∧ pos < st'.pos ∧ pos < toks.size := by
  obtain ⟨p', rfl, h1, h2⟩ := ((ParseFuel.all cfg toks fs hfs fuel).decl pos hf).post h
  exact ⟨rfl, rfl, h1, h2⟩

/-- an expression, when one is parsed, consumed at least one token; the opcode and keyword parsers too -/
theorem parse_expr_consumes (cfg : ParseCfg) (toks : Array Tok) (fs : FS) (hfs : fs.text = []) (pos fuel : Nat)
    (hf : 2 * (toks.size - pos) + 2 ≤ fuel) (a : PExpr) (st' : PState)
    (h : (parseExpr cfg fuel).run ⟨toks, pos, fs⟩ = .ok (a, st')) :
    st'.toks = toks ∧ st'.fs = fs ∧ pos < st'.pos ∧ pos < toks.size := by
  obtain ⟨p', rfl, h1, h2⟩ := ((ParseFuel.all cfg toks fs hfs fuel).expr pos hf).post h
  exact ⟨rfl, rfl, h1, h2⟩

/-- scanning and parsing a whole source text that cannot include other sources terminates -/
theorem parseSource_terminates (bins : List (String × List Nat)) (src : String) :
    Ops.parseSource ⟨[], bins⟩ src ≠ .error .outOfFuel := by
  unfold Ops.parseSource
  have hs := scan_terminates Ops.genScanCfg .initial 0 src.toList
  generalize scan Ops.genScanCfg .initial 0 src.toList = r at hs
  dsimp only
  split
  · rename_i e he
    exact fun h => hs (he.trans (congrArg some (Except.error.inj h)))
  · have hp := parse_terminates Ops.genParseCfg r.toks ⟨[], bins⟩ rfl 0 (4 * (r.toks.size + 0) + 64) (by omega)
    split
    · exact nofun
    · rename_i e he
      exact fun h => hp (he.trans (congrArg Except.error (Except.error.inj h)))

/-- non-vacuity: a deeply nested block and a long operator chain parse with the stated fuel -/
example : ((Ops.parseSource ⟨[], []⟩ "{\n{\n{\n{\nlda #1+2*(3-(4))\n}\n}\n}\n}\n").toOption.map List.length) = some 1 := by
  decide +kernel

/-- code generation is total for every nesting budget: with budget 0 it stops with `RecursionError` -/
theorem gen_budget_exhausted (env : Env) (a : Ast) (st : GenState) : (gen env 0 a).run st = .error .recursion := rfl

theorem ipsHeader_ne_fuel (copier : Bool) (addr : Int) (n : Nat) : ipsHeader copier addr n ≠ .error .outOfFuel := by
  unfold ipsHeader
  extract_lets a
  split
  · exact nofun
  · split <;> exact nofun

/-- the IPS writer's split loop never runs out of its fuel `len / 0xFFFF + 1` -/
theorem ipsWrite_fuel (copier : Bool) : ∀ (fuel : Nat) (addr : Int) (block : List Nat), block.length ≤ fuel * 0xFFFF →
    ipsWriteBlockAux copier fuel addr block ≠ .error .outOfFuel := by
  intro fuel
  induction fuel with
  | zero =>
    intro addr block h
    have : block = [] := List.length_eq_zero_iff.mp (by omega)
    subst this; exact nofun
  | succ f ih =>
    intro addr block h
    unfold ipsWriteBlockAux
    split
    · exact nofun
    · rename_i hb
      have hpos : 0 < block.length := List.length_pos_iff.mpr hb
      dsimp only
      split
      · rename_i e hh; intro hc; cases hc; exact ipsHeader_ne_fuel _ _ _ hh
      · split
        · rename_i e hr; intro hc; cases hc
          exact ih _ _ (by rw [List.length_drop]; omega) hr
        · exact nofun

end A816.C15
