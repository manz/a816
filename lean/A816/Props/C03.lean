import A816.Proofs.Emit
import A816.Props.C04
/-!
# C03 — Output holds exactly the emitted bytes at their mapped ROM offsets

On the model of `Program.emit` (every node list, every resolver state): the blocks handed to the writer for the program's
own bytes, flattened, are exactly the bytes the statements emitted, in source order, each node's bytes contiguous at the
storage offset current when it was emitted — nothing else is written (`writes_are_trace`).  `*=` closes the pending block
and restarts at the mapped offset of its target, which also becomes the run address; `@=` changes the run address only
(`star_eq_moves_both`, `at_eq_moves_logical_only`).  While no `@=` intervenes, "storage offset = mapped offset of the run
address" (`Sync`) is kept by every byte-emitting statement, bank crossing included (`sync_step`, with C04 `add_rom`).
-/
namespace A816.C03
open A816

/-- **Exactly the emitted bytes, contiguous, in order, at the storage offsets.** -/
theorem writes_are_trace (env : Env) (nodes : List Node) (r : Resolver) (st : EmitState)
    (h : emitAll env nodes r = .ok st) : flatW st.own = traceFlat st.trace := by
  unfold emitAll at h
  cases hl : emitLoop env nodes ⟨r, [], r.pc, [], [], []⟩ with
  | error e => simp [hl] at h
  | ok s =>
    simp only [hl, Except.ok.injEq] at h
    have hinv : WritesInv s := emitLoop_writesInv hl (by simp [WritesInv, flatW, placed, traceFlat])
    unfold WritesInv at hinv
    by_cases hb : s.block.isEmpty = true
    · simp only [hb, ↓reduceIte] at h
      subst h
      have : s.block = [] := by simpa using hb
      rw [← hinv, flatW_append, this]; simp [flatW, placed]
    · simp only [hb, Bool.false_eq_true, ↓reduceIte] at h
      subst h
      exact hinv

/-- each trace record is one node: its run address, its storage offset, its bytes -/
theorem trace_records (env : Env) (n : Node) (st st' : EmitState) (h : emitStep env n st = .ok st') :
    ∃ bs, st'.trace = st.trace ++ [⟨st.r.reloc.logical, st.blockAddr + st.block.length, bs⟩] ∧
      ∃ r1, emitNode env n st.r = .ok (r1, bs) := by
  obtain ⟨r1, bs, o⟩ := emitStep_spec h
  exact ⟨bs, o.trace, r1, o.emit⟩

/-- **`*=` moves both**: the pending block is handed to the writer (if non-empty), a new block starts at
    `resolver.pc`, the run address is the target, and when the target is ROM-mapped `resolver.pc` — hence
    the new block's offset — is the target's mapped offset. -/
theorem star_eq_moves_both (env : Env) (e : PExpr) (info : Tok) (st st' : EmitState)
    (h : emitStep env (.codePos e info) st = .ok st') :
    ∃ v : Int, getValue env st.r e info = .ok v ∧ (st'.r.reloc.logical : Int) = v ∧
      st'.block = [] ∧ st'.blockAddr = st'.r.pc ∧
      (∀ p, st'.r.reloc.physical = some p → st'.blockAddr = p) ∧
      st'.own = (if st.block.isEmpty then st.own else st.own ++ [(st.blockAddr, st.block)]) := by
  obtain ⟨r1, bs, o⟩ := emitStep_spec h
  obtain ⟨rfl, v, bus, a, hv, _, hmk, rfl⟩ := emitNode_position (.inl rfl) o.emit
  have hr := o.same rfl
  obtain ⟨hb, ha, ho⟩ := o.flush rfl
  obtain ⟨_, _, hlog⟩ := Address.mk?_wf hmk
  refine ⟨v, hv, by rw [hr]; exact hlog, hb, ha, fun p hp => ?_, by simpa using ho⟩
  rw [hr] at hp
  rw [ha, hr]
  show a.physical.getD st.r.pc = p
  rw [show a.physical = some p from hp]; rfl

/-- **`@=` moves the run address only**: pending block, its offset and the blocks already handed over
    are unchanged; the run address is the target. -/
theorem at_eq_moves_logical_only (env : Env) (e : PExpr) (info : Tok) (st st' : EmitState)
    (h : emitStep env (.reloc e info) st = .ok st') :
    ∃ v : Int, getValue env st.r e info = .ok v ∧ (st'.r.reloc.logical : Int) = v ∧
      st'.block = st.block ∧ st'.blockAddr = st.blockAddr ∧ st'.own = st.own := by
  obtain ⟨r1, bs, o⟩ := emitStep_spec h
  obtain ⟨rfl, v, bus, a, hv, _, hmk, rfl⟩ := emitNode_position (.inr rfl) o.emit
  obtain ⟨hb, ha, ho⟩ := o.kept rfl
  obtain ⟨_, _, hlog⟩ := Address.mk?_wf hmk
  exact ⟨v, hv, by rw [o.same rfl]; exact hlog, by simpa using hb, ha, ho⟩

/-- "the pending bytes end at the mapped offset of the run address" -/
def Sync (st : EmitState) : Prop :=
  st.r.reloc.physical = some (st.blockAddr + (st.block.length : Int))

/-- right after `*=` to a ROM-mapped target the invariant holds -/
theorem sync_after_star_eq (env : Env) (e : PExpr) (info : Tok) (st st' : EmitState)
    (h : emitStep env (.codePos e info) st = .ok st') (p : Int) (hp : st'.r.reloc.physical = some p) : Sync st' := by
  obtain ⟨v, _, _, hb, _, hpp, _⟩ := star_eq_moves_both env e info st st' h
  unfold Sync
  rw [hb, hpp p hp, hp]; simp

/-- **contiguity across statements and banks**: a statement that emits bytes and is neither `*=` nor `@=`
    keeps the invariant, provided the advance stays in the mapped range (C04 `add_rom`): the next
    statement's bytes go to the mapped offset of *its* run address, also when the run address wrapped
    to the next bank's window start. -/
theorem sync_step (env : Env) (n : Node) (st st' : EmitState) (h : emitStep env n st = .ok st')
    (hn : n.isCodePos = false) (r1 : Resolver) (bs : List Nat) (hem : emitNode env n st.r = .ok (r1, bs))
    (hbs : bs ≠ []) (hsame : r1.reloc = st.r.reloc)
    (hwf : st.r.reloc.WF) (hrom : st.r.reloc.mapping.RomWF) (p : Nat)
    (hsync : st.r.reloc.physical = some (p : Int)) (hp : (p : Int) = st.blockAddr + st.block.length)
    (hstay : st.r.reloc.bus.mappingForBank ((Spec.address st.r.reloc.mapping.range (p + bs.length)) >>> 16)
        = some st.r.reloc.mapping) :
    Sync st' := by
  obtain ⟨r1', bs', o⟩ := emitStep_spec h
  cases hem.symm.trans o.emit
  obtain ⟨a', ha', hr'⟩ := o.moved hbs
  obtain ⟨hb, hba, _⟩ := o.kept hn
  obtain ⟨A', hadd, _, _, _, _, hphys, _⟩ := C04.add_rom st.r.reloc hwf hrom p bs.length hsync hstay
  rw [hsame, hadd] at ha'
  cases ha'
  unfold Sync
  rw [hr', hb, hba]
  simp only [List.length_append]
  rw [hphys]
  congr 1
  push_cast
  omega

end A816.C03
