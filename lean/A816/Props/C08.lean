import A816.Model.Resolver
import A816.Proofs.LabelScopes
import A816.Proofs.Unrelated
import A816.Proofs.UnrelatedPass
import A816.Proofs.Replay
/-!
# C08 — Names resolve lexically; scopes isolate; named scopes export

On the resolver model (`Scope.value_for`, `Resolver.restore_scope`), for every scope array in which each scope's parent
was created before it (`ParentLt`, which scope creation maintains): a name refers to its definition in the innermost
enclosing scope that defines it, falling back outward, finally to the top level (`valueFor_here` / `_outward` / `_root`);
changing a scope that is neither the current one nor an ancestor changes no lookup (`isolation`, and through a whole pass
`pass_scope_isolation`); leaving a named scope `n` makes each of its symbols `k` available in the enclosing scope as `n.k`
(`export_named`).

The label pass, the symbol pass and emission re-enter the scopes *positionally*.  `replay_consistent` (with
`Proofs/Replay.lean`): for every AST and nesting budget the node list code generation produces replays exactly the
scope structure it created; `label_pass_follows_replay`, `emission_follows_replay`: the passes move through the scopes as
that replay does.  Together with `valueFor_*` this is "names resolve lexically" across the three passes.
`unrelated_definition_*`: one more definition of a name `z` changes no other lookup, the value of no expression that does
not mention `z`, and not the output.
-/
namespace A816.C08
open A816 Resolver

/-- every scope's parent was created before it -/
def ParentLt (r : Resolver) : Prop :=
  ∀ i p, (r.scopeAt i).parent = some p → p < i

def defines (s : ScopeRec) (name : String) : Bool :=
  (alookup name s.symbols).isSome || (alookup name s.codeSymbols).isSome

/-- enough fuel: the walk from scope `i` needs at most `i + 1` steps -/
theorem valueForAux_fuel (r : Resolver) (h : ParentLt r) (name : String) :
    ∀ (i f : Nat), i + 1 ≤ f → valueForAux r.scopes name f i = valueForAux r.scopes name (i + 1) i := by
  intro i
  induction i using Nat.strongRecOn with
  | _ i ih =>
    intro f hf
    obtain ⟨g, rfl⟩ : ∃ g, f = g + 1 := ⟨f - 1, by omega⟩
    unfold valueForAux
    cases hp : (r.scopes.getD i default).parent with
    | none => rfl
    | some p =>
      simp only
      have hlt := h i p hp
      split
      · rfl
      · rw [ih p hlt g (by omega), ih p hlt i (by omega)]

/-- the current scope index is a scope -/
def CurOk (r : Resolver) : Prop := r.current < r.scopes.size

/-- parents have smaller indices, so from an existing scope the fuel `current + 1` is enough -/
theorem valueFor_eq (r : Resolver) (h : ParentLt r) (hc : CurOk r) (name : String) :
    r.valueFor name = valueForAux r.scopes name (r.current + 1) r.current := by
  unfold valueFor
  exact valueForAux_fuel r h name r.current _ (by unfold CurOk at hc; omega)

/-- `Scope.value_for`, one step: the current scope answers if it has no parent or defines the name, else its parent does -/
theorem valueFor_step (r : Resolver) (h : ParentLt r) (hc : CurOk r) (name : String) :
    r.valueFor name =
      match r.cur.parent with
      | none => getItem r.cur name
      | some p => if defines r.cur name then getItem r.cur name else ({ r with current := p } : Resolver).valueFor name := by
  rw [valueFor_eq r h hc]
  unfold valueForAux
  show (match r.cur.parent with
    | some p => if defines r.cur name then getItem r.cur name else valueForAux r.scopes name r.current p
    | none => getItem r.cur name) = _
  cases hp : r.cur.parent with
  | none => rfl
  | some p =>
    have hlt : p < r.current := h r.current p hp
    have hc' : CurOk ({ r with current := p } : Resolver) := Nat.lt_trans hlt hc
    simp only []
    rw [valueFor_eq { r with current := p } h hc', valueForAux_fuel r h name p r.current (by omega)]

/-- **innermost wins**: a name defined in the current scope resolves to that definition,
    whatever enclosing scopes define -/
theorem valueFor_here (r : Resolver) (h : ParentLt r) (hc : CurOk r) (name : String)
    (hd : defines r.cur name = true) : r.valueFor name = getItem r.cur name :=
  valueFor_cur r name (.inr hd)

/-- **falls back outward**: a name the current scope does not define resolves as it does in the parent scope -/
theorem valueFor_outward (r : Resolver) (h : ParentLt r) (hc : CurOk r) (name : String) (p : Nat)
    (hp : r.cur.parent = some p) (hd : defines r.cur name = false) :
    r.valueFor name = ({ r with current := p } : Resolver).valueFor name := by
  rw [valueFor_step r h hc, hp]
  simp only [hd, Bool.false_eq_true, ↓reduceIte]

/-- at the top level a name resolves to the top-level definition (or is undefined) -/
theorem valueFor_root (r : Resolver) (h : ParentLt r) (hc : CurOk r) (name : String) (hp : r.cur.parent = none) :
    r.valueFor name = getItem r.cur name :=
  valueFor_cur r name (.inl hp)

/-- `j` is the scope `i` or one of its ancestors -/
inductive IsAncestor (r : Resolver) (j : Nat) : Nat → Prop
  | self : IsAncestor r j j
  | up (i p : Nat) : (r.scopeAt i).parent = some p → IsAncestor r j p → IsAncestor r j i

/-- the walk only reads the scopes on the ancestor chain -/
theorem valueForAux_congr (r : Resolver) (scopes' : Array ScopeRec) (name : String) (j : Nat)
    (hsame : ∀ i, i ≠ j → scopes'.getD i default = r.scopes.getD i default) :
    ∀ (f i : Nat), ¬ IsAncestor r j i → valueForAux scopes' name f i = valueForAux r.scopes name f i := by
  intro f
  induction f with
  | zero => intro i _; rfl
  | succ f ih =>
    intro i hna
    have hij : i ≠ j := fun c => hna (c ▸ IsAncestor.self)
    unfold valueForAux
    rw [hsame i hij]
    cases hp : (r.scopes.getD i default).parent with
    | none => rfl
    | some p =>
      simp only
      have hnp : ¬ IsAncestor r j p := fun c => hna (IsAncestor.up i p hp c)
      rw [ih p hnp]

/-- **isolation**: redefining anything inside a scope that is neither the current scope nor one of
    its ancestors (a sibling, a nested scope, an unrelated scope) changes no lookup -/
theorem isolation (r : Resolver) (j : Nat) (f : ScopeRec → ScopeRec)
    (hna : ¬ IsAncestor r j r.current) (name : String) :
    ({ r with scopes := r.scopes.modify j f } : Resolver).valueFor name = r.valueFor name := by
  unfold valueFor
  have hsize : (r.scopes.modify j f).size = r.scopes.size := by simp
  show valueForAux (r.scopes.modify j f) name ((r.scopes.modify j f).size + 1) r.current = _
  rw [hsize]
  apply valueForAux_congr r _ name j
  · intro i hij
    rw [getD_modify, if_neg fun c => hij c.1.symm]
  · exact hna

/-- symbols after merging the exports `name.k = v` of a scope's symbols into a dict -/
def exported (name : String) (syms : List (String × Int)) (into : List (String × Int)) : List (String × Int) :=
  syms.foldl (fun acc (k, v) => ainsert (name ++ "." ++ k) v acc) into

/-- names that are not of the form `name.k` for a symbol `k` of the scope keep their binding -/
theorem exported_other (name : String) (syms into : List (String × Int)) (x : String)
    (hx : ∀ k v, (k, v) ∈ syms → x ≠ name ++ "." ++ k) : alookup x (exported name syms into) = alookup x into := by
  refine Unrel.exportFold_other name x syms into fun k hk e => ?_
  obtain ⟨⟨k', v⟩, hm, rfl⟩ := List.mem_map.mp hk
  exact hx k' v hm e.symm

/-- the last definition of `k` in the scope is what `name.k` gets -/
theorem exported_last (name : String) (syms into : List (String × Int)) (k : String) (v : Int)
    (pre post : List (String × Int)) (hs : syms = pre ++ (k, v) :: post)
    (hlast : ∀ k' v', (k', v') ∈ post → name ++ "." ++ k' ≠ name ++ "." ++ k) :
    alookup (name ++ "." ++ k) (exported name syms into) = some v := by
  subst hs
  have e : exported name (pre ++ (k, v) :: post) into
      = exported name post (ainsert (name ++ "." ++ k) v (exported name pre into)) := by
    unfold exported; rw [List.foldl_append, List.foldl_cons]
  rw [e, exported_other name post _ _ fun k' v' hm => (hlast k' v' hm).symm]
  exact alookup_ainsert_self

/-- **named scopes export**: `restore_scope(exports=True)` on a named scope returns to the parent, whose
    symbols now contain the exports; nothing else about any scope changes. -/
theorem export_named (r r' : Resolver) (name : String) (p : Nat) (hk : r.cur.kind = .named name)
    (hp : r.cur.parent = some p) (h : r.restoreScope true = some r') :
    r'.current = p ∧
    r'.scopes = r.scopes.modify p (fun ps => { ps with symbols := exported name r.cur.symbols ps.symbols }) := by
  rw [restoreScope_eq, hp] at h
  cases h
  exact ⟨rfl, by unfold leftScopes; rw [hk]; rfl⟩

/-- leaving any scope without exports (emission pass, and code generation) only changes the current scope -/
theorem restore_plain (r r' : Resolver) (p : Nat) (hp : r.cur.parent = some p) (h : r.restoreScope false = some r') :
    r' = { r with current := p } := by
  rw [restoreScope_eq, hp] at h
  exact (Option.some.inj h).symm

/-- **scopes nest lexically**: a new scope is a child of the scope that is current when it is created,
    and creating it keeps `ParentLt` -/
theorem appendScope_lexical (r : Resolver) (kind : ScopeKind) (hc : CurOk r) (h : ParentLt r)
    (hall : ∀ i, r.scopes.size ≤ i → (r.scopeAt i).parent = none) :
    ((r.appendScope kind).scopeAt r.scopes.size).parent = some r.current ∧ ParentLt (r.appendScope kind) := by
  have e : ∀ i, (r.appendScope kind).scopeAt i = if i = r.scopes.size then { kind := kind, parent := some r.current } else r.scopeAt i :=
    fun i => getD_push _ _ i
  refine ⟨by rw [e, if_pos rfl], fun i p hp => ?_⟩
  rw [e] at hp
  split at hp
  · cases hp; subst i; exact hc
  · exact h i p hp

open Replay in
/-- **C08 (replay consistency)**: code generation of any statement list, from any state in which every
    scope created so far has been entered, yields a node list whose positional replay (from the scope
    and the scope count generation started with) ends in the same scope with every new scope entered,
    whatever scopes are appended later; parents of existing scopes never change. -/
theorem replay_consistent (env : Env) (fuel : Nat) (asts : List Ast) (st st' : GenState) (nodes : List Node)
    (hinv : GenInv st) (h : (genList env fuel asts).run st = .ok (nodes, st')) :
    GenInv st' ∧ st'.r.current = st.r.current ∧ Agrees st.r.scopes st'.r.scopes ∧
    ∀ ext, Agrees st'.r.scopes ext →
      replay ext nodes st.r.current st.r.lastUsed = some (st.r.current, st'.r.lastUsed) := by
  have p := genList_good env fuel asts st nodes st' hinv h
  exact ⟨p.inv hinv, p.cur, p.agrees, p.replays⟩

open Replay in
/-- the state `Program` starts code generation in satisfies the invariant: one root scope, current, entered -/
theorem init_genInv (r : Resolver) (macros : List (String × MacroDef)) (fs : FS)
    (hs : r.scopes.size = 1) (hc : r.current = 0) (hl : r.lastUsed = 0) : GenInv ⟨r, macros, fs⟩ :=
  ⟨by show r.lastUsed + 1 = r.scopes.size; rw [hl, hs], by show r.current < r.scopes.size; rw [hc, hs]; exact Nat.one_pos⟩

open Replay in
/-- **a scope construct's body is traversed in its own child scope**: for a block `{ … }` generated in scope `c`
    when `k` scopes exist, the node list is `ScopeNode :: body ++ [PopScopeNode]`; the replay enters scope `k`,
    whose parent is `c`, traverses the body there, and returns to `c`. -/
theorem scope_body_in_child (env : Env) (fuel : Nat) (body : List Ast) (i : Tok) (st st' : GenState) (nodes : List Node)
    (hinv : GenInv st) (h : (gen env (fuel + 1) (.compound body i)).run st = .ok (nodes, st')) :
    ∃ inner, nodes = Node.scopeEnter :: inner ++ [Node.scopePop] ∧
      (st'.r.scopes.getD st.r.scopes.size default).parent = some st.r.current ∧
      ∀ ext, Agrees st'.r.scopes ext →
        replay ext inner st.r.scopes.size st.r.scopes.size = some (st.r.scopes.size, st'.r.lastUsed) := by
  have hw : RunsTo (withScope .plain id [] (genListWith (gen env fuel) body)) st nodes st' := by unfold gen at h; exact h
  obtain ⟨st3, inner, st4, hb, rfl, hinv3, hc3, hl3, hsz3, _, hpar3, p, _, rfl⟩ := withScope_runs (fun r => SameShape.refl r) hinv hw
  have pb := Good.flatten (gen_good env fuel) body st3 inner st4 hinv3 hb
  refine ⟨inner, rfl, ?_, fun ext hext => ?_⟩
  · show (st4.r.scopes.getD st.r.scopes.size default).parent = _
    rw [pb.agrees.2 _ (by omega)]; exact hpar3
  · have := pb.replays ext hext
    rwa [hc3, hl3] at this

open Replay in
/-- **the label pass and the symbol pass follow the replay** (`skip` = the node classes a pass leaves out,
    never a scope marker) -/
theorem label_pass_follows_replay (env : Env) (skip : Node → Bool) (hskip : ∀ n, skip n = true → Node.isScopeMark n = false)
    (nodes : List Node) (r r' : Resolver) (pc pc' : Address) (h : passLoop env skip nodes r pc = .ok (r', pc')) :
    replay r.scopes nodes r.current r.lastUsed = some (r'.current, r'.lastUsed) :=
  (passLoop_replay env skip hskip nodes r r' pc pc' h).1

open Replay in
/-- the two `skip` predicates of `Program.resolve_labels` qualify -/
theorem pass_skips_no_scope_marker : (∀ n, Node.isSymbol n = true → Replay.Node.isScopeMark n = false) ∧
    (∀ n, Node.isLabelOrBinary n = true → Replay.Node.isScopeMark n = false) :=
  ⟨fun n h => isMarker_eq n ▸ LabelScopes.isSymbol_not_marker n h, fun n h => isMarker_eq n ▸ LabelScopes.isLabelOrBinary_not_marker n h⟩

open Replay in
/-- **emission follows the replay**, one node at a time -/
theorem emission_follows_replay (env : Env) (n : Node) (r r' : Resolver) (bs : List Nat)
    (h : emitNode env n r = .ok (r', bs)) :
    replay r.scopes [n] r.current r.lastUsed = some (r'.current, r'.lastUsed) :=
  (emitNode_replay h).1

/-- non-vacuity: `{ a: } { a: }` generated from the root creates scopes 1 and 2, both children of the root, and the
    replay of the node list from (0, 0) ends at (0, 2) -/
example :
    let root : ScopeRec := { kind := .plain, parent := none }
    let nodes := [Node.scopeEnter, .label "a", .scopePop, .scopeEnter, .label "a", .scopePop]
    Replay.replay #[root, { kind := .plain, parent := some 0 }, { kind := .plain, parent := some 0 }] nodes 0 0 = some (0, 2) := by
  decide +kernel

open LabelCheck LabelScopes in
/-- **isolation through a whole pass**: whatever node list a pass (label pass or symbol pass) traverses, moving between
    scopes as the markers say, the `labels` and (dot-free) `symbols` entries of scope `k` change only under names written by
    nodes that are visited *while `k` is the current scope* — definitions made in any other scope (sibling, inner, outer)
    never touch them; leaving a named scope adds only `scope.name` keys to its parent. -/
theorem pass_scope_isolation (env : Env) (skip : Node → Bool) (hskip : ∀ n, skip n = true → isMarker n = false)
    (S : Array ScopeRec) (hS : ParentsOk S) (k : Nat) (ns : List Node) (r r' : Resolver) (pc pc' : Address)
    (hag : Replay.Agrees S r.scopes) (hsz : r.scopes.size = S.size) (hc : r.current < S.size)
    (h : passLoop env skip ns r pc = .ok (r', pc')) (x : String) :
    (x ∉ namesIn labelNames skip S k ns r.current r.lastUsed →
      alookup x (r'.scopeAt k).labels = alookup x (r.scopeAt k).labels) ∧
    (x ∉ namesIn symNames skip S k ns r.current r.lastUsed → NoDot x →
      alookup x (r'.scopeAt k).symbols = alookup x (r.scopeAt k).symbols) ∧
    (r'.scopeAt k).codeSymbols = (r.scopeAt k).codeSymbols := by
  obtain ⟨kk, _, _, _, _⟩ := passLoop_keepsAt env skip hskip S hS k ns r r' pc pc' hag hsz hc h
  exact ⟨kk.labels x, kk.symbols x, kk.code⟩

/-- non-vacuity: in `{ a: } a:` the node list visits the inner `a` in scope 1 and the outer `a` in scope 0: the names
    written in scope 1 along the replay from the root are exactly `["a"]` (the inner one), those written in scope 0 `["a"]`
    (the outer one) -/
example :
    let S : Array ScopeRec := #[{ kind := .plain, parent := none }, { kind := .plain, parent := some 0 }]
    let ns := [Node.scopeEnter, .label "a", .scopePop, .label "a", .label "b"]
    LabelScopes.namesIn LabelCheck.labelNames Node.isSymbol S 1 ns 0 0 = ["a"] ∧
    LabelScopes.namesIn LabelCheck.labelNames Node.isSymbol S 0 ns 0 0 = ["a", "b"] := by
  decide +kernel

open Unrel in
/-- **an unrelated definition changes no lookup**: one more symbol — or label — named `z`, added to any scope `k`, changes the
    lookup of no other name `n ≠ z`, started from any scope `c` (inside or outside `k`, an ancestor, a descendant, a sibling) -/
theorem unrelated_definition_lookup (r : Resolver) (k : Nat) (z : String) (v : Int) (n : String) (hn : n ≠ z) (c : Nat) :
    ({ withSymbol r k z v with current := c } : Resolver).valueFor n = ({ r with current := c } : Resolver).valueFor n ∧
    ({ withLabel r k z v with current := c } : Resolver).valueFor n = ({ r with current := c } : Resolver).valueFor n :=
  ⟨valueFor_withSymbol r k z v n hn c, valueFor_withLabel r k z v n hn c⟩

open Unrel in
/-- **… and the value of no expression that does not mention it**: every expression in which `z` does not occur as an
    identifier evaluates — or fails — exactly as before, whatever scope it is evaluated in -/
theorem unrelated_definition_eval (env : Env) (r : Resolver) (k : Nat) (z : String) (v : Int) (e : PExpr)
    (hz : ENode.term .identifier z ∉ e.nodes) (c : Nat) :
    evalP env ({ withSymbol r k z v with current := c } : Resolver) e = evalP env ({ r with current := c } : Resolver) e ∧
    evalP env ({ withLabel r k z v with current := c } : Resolver) e = evalP env ({ r with current := c } : Resolver) e := by
  have key : ∀ r' : Resolver, (∀ n, n ≠ z → r'.valueFor n = ({ r with current := c } : Resolver).valueFor n) →
      evalP env r' e = evalP env { r with current := c } e := fun r' h =>
    evalTokens_congr _ _ _ _ fun n hn => by
      unfold Resolver.look; rw [h n fun hx => hz (hx ▸ hn)]
  exact ⟨key _ fun n hn => (unrelated_definition_lookup r k z v n hn c).1, key _ fun n hn => (unrelated_definition_lookup r k z v n hn c).2⟩


/-- the names a definition of `z` goes by once named scopes have exported it: `z`, `s.z`, `t.s.z`, … -/
def Qual (z n : String) : Prop := n = z ∨ ∃ p, n = p ++ "." ++ z

theorem qual_closed (z : String) : ∀ s n, Qual z n → Qual z (s ++ "." ++ n) := by
  intro s n h
  rcases h with rfl | ⟨p, rfl⟩
  · exact Or.inr ⟨s, rfl⟩
  · exact Or.inr ⟨s ++ "." ++ p, by simp [String.append_assoc]⟩

open Unrel in
/-- **adding an unrelated definition does not change the output**: for every node list `a ++ b` none of whose nodes
    mentions `z` or a qualified form of it (`FreeN (Qual z)`: no expression names `z`, `s.z`, …; no label / included binary
    is called so), every position in it, every value `v` and every resolver state (any nesting of blocks, macro
    applications, loop iterations and *named scopes* around that position; each scope's symbol table holding a name once, as
    a `dict` does), the node list with one more definition `z = v` inserted there gives the writer exactly the same
    `write_block` calls — or raises the same exception — as the node list without it.  `Unrel.output` is what
    `Program.resolve_labels` followed by `Program.emit` hands to the writer (the tail of `Model/Program.assemble`). -/
theorem unrelated_definition_output (env : Env) (z : String) (v : Int) (a b : List Node)
    (hf : ∀ n ∈ a ++ b, FreeN (Qual z) n) (r : Resolver)
    (hk : ∀ i, NodupKeys (r.scopes.getD i default).symbols) :
    output env (a ++ Node.symbolConst z v :: b) r = output env (a ++ b) r :=
  output_insert (qual_closed z) env z (Or.inl rfl) v a b hf r hk

open Unrel in
/-- **… and an unrelated label can only make the assembly fail, never change its output**: with one more *label* `z:`
    inserted anywhere (same hypotheses), the writer gets exactly the same `write_block` calls, or the assembly raises — the
    label's own emission-time check ("label moved / hidden", C02) being the only new thing that can fail -/
theorem unrelated_label_output (env : Env) (z : String) (a b : List Node)
    (hf : ∀ n ∈ a ++ b, FreeN (Qual z) n) (r : Resolver)
    (hk : ∀ i, NodupKeys (r.scopes.getD i default).symbols) :
    output env (a ++ Node.label z :: b) r = output env (a ++ b) r ∨ ∃ e, output env (a ++ Node.label z :: b) r = .error e :=
  output_insert_label (qual_closed z) env z (Or.inl rfl) a b hf r hk

/-- non-vacuity: nodes that do not mention `z`; the symbol tables a fresh resolver starts with hold no name twice -/
example : Unrel.FreeN (Qual "z") (Node.ascii "hi") ∧ Unrel.FreeN (Qual "z") Node.scopeEnter ∧
    Unrel.NodupKeys ([] : List (String × Int)) ∧ Unrel.NodupKeys (ainsert "a" 1 (ainsert "b" 2 ([] : List (String × Int)))) :=
  ⟨trivial, trivial, List.nodup_nil, Unrel.nodup_ainsert (Unrel.nodup_ainsert List.nodup_nil)⟩

end A816.C08
