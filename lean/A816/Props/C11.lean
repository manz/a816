import A816.Proofs.Ips
/-!
# C11 — IPS output is well formed and patches exactly the written blocks

For **every** sequence of `(address, bytes)` writes (any lengths, any addresses, copier header on or off):
if the writer succeeds, the file is `PATCH` ++ records ++ `EOF`, the standard reader reads exactly the
expected records (each block cut into consecutive slices of 1…65535 bytes at consecutive offsets,
shifted by 0x200 with the copier header), applying them writes exactly each block's bytes at its
address in write order, an empty block contributes nothing, and offsets IPS cannot represent
(negative, ≥ 2^24, or reading as `EOF`) are refused.
-/
namespace A816.C11
open A816 Spec.Ips

/-- the records a write sequence must become -/
def expected (copier : Bool) : List (Int × List Nat) → List Record
  | [] => []
  | (addr, block) :: rest =>
    chunks (block.length / 0xFFFF + 1) (addr + shiftOf copier).toNat block ++ expected copier rest

/-- a reading that succeeded is repeated by any fuel above the length of the input -/
theorem parseRecords_fuel {f : Nat} {bs : List Nat} {r : List Record} (h : parseRecords f bs = some r) {f' : Nat}
    (hle : bs.length < f') : parseRecords f' bs = some r := by
  induction f generalizing bs r f' with
  | zero => simp [parseRecords] at h
  | succ f ih =>
    obtain ⟨g, rfl⟩ : ∃ g, f' = g + 1 := ⟨f' - 1, by omega⟩
    unfold parseRecords at h ⊢
    by_cases he : bs.take 3 = eof
    · simpa [he] using h
    · simp only [he, ↓reduceIte] at h ⊢
      match bs, h with
      | a :: b :: c :: hh :: l :: rest, h =>
        simp only at h ⊢
        by_cases hz : hh * 256 + l = 0
        · simp only [hz, ↓reduceIte] at h ⊢
          match rest, h with
          | ch :: cl :: v :: rest', h =>
            simp only [Option.map_eq_some_iff] at h ⊢
            obtain ⟨rs, h1, h2⟩ := h
            exact ⟨rs, ih h1 (by simp only [List.length_cons] at hle; omega), h2⟩
        · simp only [hz, ↓reduceIte] at h ⊢
          by_cases hl : rest.length < hh * 256 + l
          · simp [hl] at h
          · simp only [hl, ↓reduceIte, Option.map_eq_some_iff] at h ⊢
            obtain ⟨rs, h1, h2⟩ := h
            exact ⟨rs, ih h1 (by simp only [List.length_cons, List.length_drop] at hle ⊢; omega), h2⟩

theorem reads_blocks (copier : Bool) (blocks : List (Int × List Nat)) (body : List Nat)
    (hw : ipsWriteBlocks copier blocks = .ok body) : ∃ f, parseRecords f (body ++ ipsEof) = some (expected copier blocks) := by
  induction blocks generalizing body with
  | nil =>
    simp only [ipsWriteBlocks, Except.ok.injEq] at hw
    subst hw
    exact ⟨1, by simp [parseRecords, ipsEof, eof, expected]⟩
  | cons b rest ih =>
    obtain ⟨addr, block⟩ := b
    unfold ipsWriteBlocks at hw
    split at hw
    · cases hw
    · split at hw <;> cases hw
      rw [List.append_assoc]
      exact writeBlock_reads (ih _ ‹_›) ‹_›

/-- **C11 (well-formed, reads back)**: the file is `PATCH` ++ body ++ `EOF` and a standard reader
    reads exactly the expected records. -/
theorem write_parses (copier : Bool) (blocks : List (Int × List Nat)) (file : List Nat)
    (h : ipsFile copier blocks = .ok file) :
    (∃ body, file = magic ++ body ++ eof) ∧ Spec.Ips.parse file = some (expected copier blocks) := by
  unfold ipsFile at h
  cases hb : ipsWriteBlocks copier blocks with
  | error e => simp [hb] at h
  | ok body =>
    simp only [hb, Except.ok.injEq] at h
    subst h
    refine ⟨⟨body, rfl⟩, ?_⟩
    obtain ⟨f, hf⟩ := reads_blocks copier blocks body hb
    unfold Spec.Ips.parse
    have h5 : (ipsMagic ++ body ++ ipsEof).take 5 = magic := by simp [ipsMagic, magic]
    have hd : (ipsMagic ++ body ++ ipsEof).drop 5 = body ++ ipsEof := by simp [ipsMagic]
    rw [if_pos h5, hd]
    exact parseRecords_fuel hf (by simp only [ipsMagic, List.length_append, List.length_cons]; omega)

theorem chunks_sizes (fuel a : Nat) (block : List Nat) :
    ∀ r ∈ chunks fuel a block, 1 ≤ r.data.length ∧ r.data.length ≤ 65535 := by
  induction fuel generalizing a block with
  | zero => simp [chunks]
  | succ f ih =>
    intro r hr
    unfold chunks at hr
    by_cases hb : block = []
    · simp [hb] at hr
    · simp only [hb, ↓reduceIte, List.mem_cons] at hr
      rcases hr with rfl | hr
      · have : 0 < block.length := List.length_pos_iff.mpr hb
        simp only [List.length_take]; omega
      · exact ih _ _ r hr

theorem writeAt_split (img : Image) (a n : Nat) (data : List Nat) (hn : n ≤ data.length) :
    writeAt (writeAt img a (data.take n)) (a + n) (data.drop n) = writeAt img a data := by
  funext k
  unfold writeAt
  simp only [List.length_take, List.length_drop]
  have hmin : min n data.length = n := by omega
  rw [hmin]
  by_cases h1 : a + n ≤ k ∧ k < a + n + (data.length - n)
  · have h2 : a ≤ k ∧ k < a + data.length := by omega
    simp only [h1, and_self, ↓reduceIte, h2, List.getElem?_drop]
    congr 1; omega
  · simp only [h1, ↓reduceIte]
    by_cases h3 : a ≤ k ∧ k < a + n
    · have h2 : a ≤ k ∧ k < a + data.length := by omega
      simp only [h3, and_self, ↓reduceIte, h2, List.getElem?_take]
      have : k - a < n := by omega
      simp [this]
    · have h2 : ¬ (a ≤ k ∧ k < a + data.length) := by omega
      simp [h3, h2]

theorem writeAt_nil (img : Image) (a : Nat) : writeAt img a [] = img := by
  funext k; unfold writeAt; simp; intro h1 h2; omega

/-- **Applying the records of a block writes exactly the block at its offset** (any length). -/
theorem apply_chunks {fuel a : Nat} {block : List Nat} {img : Image} {rest : List Record}
    (hf : block.length ≤ fuel * 0xFFFF) :
    apply img (chunks fuel a block ++ rest) = apply (writeAt img a block) rest := by
  induction fuel generalizing a block img with
  | zero =>
    obtain rfl : block = [] := List.length_eq_zero_iff.mp (by omega)
    simp [chunks, writeAt_nil]
  | succ f ih =>
    unfold chunks
    by_cases hb : block = []
    · subst hb; simp [writeAt_nil]
    · simp only [hb, ↓reduceIte, List.cons_append, apply]
      rw [ih (by rw [List.length_drop]; omega), writeAt_split img a _ block (by omega)]

/-- the direct effect of a write sequence on an image (offsets shifted by the copier header) -/
def directWrites (copier : Bool) (img : Image) : List (Int × List Nat) → Image
  | [] => img
  | (addr, block) :: rest => directWrites copier (writeAt img (addr + shiftOf copier).toNat block) rest

/-- **C11 (patch effect)**: applying the file with a standard patcher writes exactly each block's
    bytes at its address (+0x200 with the copier header), in write order, and nothing else. -/
theorem apply_is_writes (copier : Bool) (blocks : List (Int × List Nat)) (img : Image) :
    apply img (expected copier blocks) = directWrites copier img blocks := by
  induction blocks generalizing img with
  | nil => simp [expected, apply, directWrites]
  | cons b rest ih =>
    obtain ⟨addr, block⟩ := b
    simp only [expected, directWrites]
    rw [apply_chunks (by omega)]
    exact ih _

/-- An empty block changes nothing: it produces no record. -/
theorem empty_block_noop (copier : Bool) (addr : Int) : ipsWriteBlock copier addr [] = .ok [] := by
  simp [ipsWriteBlock, ipsWriteBlockAux]

/-- Offsets IPS cannot represent are refused, never wrapped: a non-empty block whose (shifted) address
    is negative, ≥ 2^24, or the `EOF` marker value makes the write fail. -/
theorem unrepresentable_refused (copier : Bool) (addr : Int) (block : List Nat) (hb : block ≠ [])
    (h : addr + shiftOf copier < 0 ∨ 16777216 ≤ addr + shiftOf copier ∨ addr + shiftOf copier = 0x454F46) :
    ∃ e, ipsWriteBlock copier addr block = .error e := by
  cases hw : ipsWriteBlock copier addr block with
  | error e => exact ⟨e, rfl⟩
  | ok out =>
    exfalso
    unfold ipsWriteBlock ipsWriteBlockAux at hw
    simp only [hb, ↓reduceIte] at hw
    cases hh : ipsHeader copier addr (min 0xFFFF block.length) with
    | error e => simp [hh] at hw
    | ok hd =>
      obtain ⟨a, ha1, ha2, ha3, _⟩ := ipsHeader_ok copier addr _ hd (by omega) hh
      omega

/-! non-vacuity: the repository's own test vector, and a split block -/
example : (ipsFile false [(0x8000, [1, 2, 3])]).toOption
    = some (ipsMagic ++ [0x00, 0x80, 0x00, 0x00, 0x03, 1, 2, 3] ++ ipsEof) := by decide +kernel
example : (ipsFile true [(0x454D46, [1])]).toOption = none := by decide +kernel

end A816.C11
