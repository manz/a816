import A816.Props.C10
/-!
# C09 — Macro application equals the body inlined with parameters bound

On the code-generation model (`generate_macro_application`, `generate_code_lookup`), for every macro definition and every
argument list: applying a macro generates `scopeEnter`, the deferred bindings, the nodes of the body generated inside a
fresh scope whose parameters are bound to the argument values **evaluated in the caller's scope before the new scope
exists** (F09 repair), then `scopePop` — the shape of a `{ … }` block with the parameters defined first (`macro_is_block`,
`block_is_scope`, `arg_value_at_call_site`, `deferred_arg_at_call_site`); `{{p}}` generates the nodes of the block bound to
`p` in the current scope (`code_arg_spliced`); an undefined macro, too few arguments, and `{{p}}` of something that is not
a block fail.
-/
namespace A816.C09
open A816 C10

/-- applying an undefined macro fails (`KeyError`) -/
theorem undefined_macro_fails (env : Env) (fuel : Nat) (name : String) (args : List MArg) (i : Tok) (st : GenState)
    (h : alookup name st.macros = none) :
    runG (gen env (fuel + 1) (.macroApply name args i)) st = .error .key := by
  simp [runG, gen, liftOpt, h]; rfl

/-- `{{p}}` splices the block bound to `p` in the current scope -/
theorem code_arg_spliced (env : Env) (fuel : Nat) (name : String) (i : Tok) (st : GenState) (body : List Ast)
    (h : st.r.valueFor name = .code body) :
    runG (gen env (fuel + 1) (.codeLookup name i)) st = runG (genList env fuel body) st := by
  simp [runG, gen, genList, h]

/-- `{{p}}` of an integer symbol is an error; of an undefined name too -/
theorem not_code_fails (env : Env) (fuel : Nat) (name : String) (i : Tok) (st : GenState) (v : Int)
    (h : st.r.valueFor name = .int v) :
    runG (gen env (fuel + 1) (.codeLookup name i)) st = .error (nodeErr "not-a-code-block" i) := by
  simp [runG, gen, h]; rfl

theorem undefined_code_fails (env : Env) (fuel : Nat) (name : String) (i : Tok) (st : GenState)
    (h : st.r.valueFor name = .undefined) :
    runG (gen env (fuel + 1) (.codeLookup name i)) st = .error (.symbolNotDefined name) := by
  simp [runG, gen, h]; rfl

/-- a macro definition only records the macro; nothing is generated -/
theorem macro_def_records (env : Env) (fuel : Nat) (name : String) (ps : List String) (body : List Ast) (i : Tok)
    (st : GenState) :
    runG (gen env (fuel + 1) (.macro name ps body i)) st
      = .ok ([], { st with macros := ainsert name ⟨ps, body⟩ st.macros }) := by
  simp [runG, gen]; rfl

/-- **macro application = block with parameters bound**: the arguments are evaluated by `bindArgs` in
    the *caller's* resolver `st.r` (before any scope is opened); then a fresh scope is opened and
    entered, the evaluated parameters are bound in it, the body is generated inside, and the scope is
    left: `scopeEnter :: deferred bindings ++ body ++ [scopePop]`. -/
theorem macro_is_block (env : Env) (fuel : Nat) (name : String) (args : List MArg) (i : Tok) (st : GenState)
    (md : MacroDef) (hm : alookup name st.macros = some md) (bound : List (String × Bound))
    (hb : bindArgs env st.r md.params args = .ok bound) :
    runG (gen env (fuel + 1) (.macroApply name args i)) st =
      runG (withScope .plain (fun r => bindParams r bound) (deferredNodes bound) (genList env fuel md.body)) st := by
  simp [runG, gen, genList, liftOpt, hm, hb]

/-- a plain block `{ … }` has the same shape with nothing bound -/
theorem block_is_scope (env : Env) (fuel : Nat) (body : List Ast) (i : Tok) (st : GenState) :
    runG (gen env (fuel + 1) (.compound body i)) st = runG (withScope .plain id [] (genList env fuel body)) st := by
  simp [runG, gen, genList]

/-- supplying too few arguments fails (`IndexError`), whatever the arguments are -/
theorem too_few_args_fails (env : Env) (r : Resolver) (params : List String) (args : List MArg)
    (h : args.length < params.length) : ∃ e, bindArgs env r params args = .error e := by
  induction params generalizing args with
  | nil => simp at h
  | cons p ps ih =>
    cases args with
    | nil => exact ⟨.index, rfl⟩
    | cons a as =>
      have hl : as.length < ps.length := by simpa using h
      obtain ⟨e, he⟩ := ih as hl
      unfold bindArgs
      cases a with
      | block b info => simp [he]
      | expr ex =>
        cases hv : evalP env r ex with
        | ok v => simp [he, hv]
        | error er =>
          cases er <;> simp [he, hv]

theorem too_few_args_fails_gen (env : Env) (fuel : Nat) (name : String) (args : List MArg) (i : Tok) (st : GenState)
    (md : MacroDef) (hm : alookup name st.macros = some md) (h : args.length < md.params.length) :
    ∃ e, runG (gen env (fuel + 1) (.macroApply name args i)) st = .error e := by
  obtain ⟨e, he⟩ := too_few_args_fails env st.r md.params args h
  refine ⟨e, ?_⟩
  simp [runG, gen, liftOpt, hm, he]; rfl

/-- an argument is bound to its value **at the call site**: `bindArgs` only reads the caller's resolver -/
theorem arg_value_at_call_site (env : Env) (r : Resolver) (p : String) (ps : List String) (e : PExpr) (as : List MArg)
    (v : Int) (hv : evalP env r e = .ok v) (rest : List (String × Bound)) (hr : bindArgs env r ps as = .ok rest) :
    bindArgs env r (p :: ps) (.expr e :: as) = .ok ((p, .int v) :: rest) := by
  simp [bindArgs, hv, hr]

/-- an argument that names a label defined later is deferred: it becomes an `ArgumentNode` of the macro scope -/
theorem deferred_arg (env : Env) (r : Resolver) (p : String) (ps : List String) (e : PExpr) (as : List MArg)
    (x : String) (hv : evalP env r e = .error (.symbolNotDefined x)) (rest : List (String × Bound))
    (hr : bindArgs env r ps as = .ok rest) :
    bindArgs env r (p :: ps) (.expr e :: as) = .ok ((p, .deferred e) :: rest) ∧
    deferredNodes ((p, Bound.deferred e) :: rest) = Node.argSymbol p e :: deferredNodes rest := by
  simp [bindArgs, hv, hr, deferredNodes]

/-- **a deferred argument is evaluated at the call site too** (repair of the known finding C09-deferred-capture): when the
    passes reach the `ArgumentNode` inside the application's scope, its expression is evaluated with the *parent* of that
    scope current — the scope the macro was applied in — and the parameter is bound in the application's scope; the
    parameters already bound in the application's scope cannot capture names of the argument -/
theorem deferred_arg_at_call_site (env : Env) (r : Resolver) (pc : Address) (p : String) (e : PExpr) (par : Nat) (v : Int)
    (hp : r.cur.parent = some par)
    (hv : evalP env { r with current := par } e = .ok v) :
    pcAfter env (.argSymbol p e) r pc = .ok (r.addSymbol p v, pc) := by
  simp [pcAfter, hp, hv]

end A816.C09
