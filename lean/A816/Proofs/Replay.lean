import A816.Model.Codegen
import A816.Proofs.NodeSteps
/-!
# Positional scope replay = lexical nesting (helper lemmas for C08 `replay_consistent`)

Code generation creates scopes (`append_scope`, `use_next_scope`, … `restore_scope`) and emits `ScopeNode` /
`PopScopeNode` markers; the three later traversals (label pass, symbol pass, emission) re-enter the scopes
*positionally*: the j-th `ScopeNode` selects the scope created j-th.  This file proves, for the whole
code generator and every AST, that the node list it produces replays exactly the scope structure it
created: a traversal that starts in the scope code generation started in, and that has entered as many
scopes as existed then, enters at every `ScopeNode` the scope that was appended for it (whose parent is
the scope the construct stands in), is back in the enclosing scope after the matching `PopScopeNode`,
and never runs out of scopes — for every later extension of the scope list (`Post`).  Every statement kind generates by
a chain of steps that create, enter and leave no scope (`Quiet`), ending in marker-free nodes, in the parts of a
statement list, or in a scope-opening construct (`withScope`) around one: `Good.bind`, `.leaf`, `.flatten`, `.withScope`.
The end of the file is the traversals' side: a step of a pass or of emission moves through the scopes as `replay` says
(`Follows`, `pcAfter_replay`, `emitNode_replay`).
-/
namespace A816.Replay
open A816 Resolver

/-- `b` has at least the scopes of `a`, with the same parents -/
def Agrees (a b : Array ScopeRec) : Prop :=
  a.size ≤ b.size ∧ ∀ i, i < a.size → (b.getD i default).parent = (a.getD i default).parent

theorem Agrees.refl (a : Array ScopeRec) : Agrees a a := ⟨Nat.le_refl _, fun _ _ => rfl⟩

theorem Agrees.trans {a b c : Array ScopeRec} (h1 : Agrees a b) (h2 : Agrees b c) : Agrees a c :=
  ⟨Nat.le_trans h1.1 h2.1, fun i hi => by rw [h2.2 i (Nat.lt_of_lt_of_le hi h1.1), h1.2 i hi]⟩

/-- the scope bookkeeping of one traversal of a node list: (current scope, last used scope) -/
def replay (scopes : Array ScopeRec) : List Node → Nat → Nat → Option (Nat × Nat)
  | [], c, l => some (c, l)
  | n :: ns, c, l =>
    match n with
    | .scopeEnter => if l + 1 < scopes.size then replay scopes ns (l + 1) (l + 1) else none
    | .scopePop =>
      match (scopes.getD c default).parent with
      | some p => replay scopes ns p l
      | none => none
    | _ => replay scopes ns c l

def Node.isScopeMark : Node → Bool
  | .scopeEnter => true
  | .scopePop => true
  | _ => false

theorem replay_append (scopes : Array ScopeRec) : ∀ (a b : List Node) (c l : Nat),
    replay scopes (a ++ b) c l = (replay scopes a c l).bind fun p => replay scopes b p.1 p.2 := by
  intro a
  induction a with
  | nil => intro b c l; rfl
  | cons n ns ih =>
    intro b c l
    cases n <;> simp only [List.cons_append, replay, ih]
    case scopeEnter => split <;> rfl
    case scopePop => split <;> rfl

theorem replay_leaves {scopes : Array ScopeRec} {ns : List Node} {c l : Nat} (h : ∀ n ∈ ns, Node.isScopeMark n = false) :
    replay scopes ns c l = some (c, l) := by
  induction ns with
  | nil => rfl
  | cons n ns ih =>
    have hn := h n (List.mem_cons_self)
    have ht := ih (fun m hm => h m (List.mem_cons_of_mem _ hm))
    cases n <;> simp only [replay, ht] <;> simp [Node.isScopeMark] at hn

theorem leaf1 (n : Node) (h : Node.isScopeMark n = false) : ∀ m ∈ [n], Node.isScopeMark m = false :=
  fun _ hm => List.mem_singleton.mp hm ▸ h

theorem nil_leaves : ∀ n ∈ ([] : List Node), Node.isScopeMark n = false := fun _ h => nomatch h

theorem isMarker_eq (n : Node) : LabelCheck.isMarker n = Node.isScopeMark n := by cases n <;> rfl

theorem replay_one (S : Array ScopeRec) {n : Node} (h : LabelCheck.isMarker n = false) (c l : Nat) : replay S [n] c l = some (c, l) :=
  replay_leaves (leaf1 n (isMarker_eq n ▸ h))

theorem replay_cons {S : Array ScopeRec} {n : Node} {c l c' l' : Nat} (h : replay S [n] c l = some (c', l'))
    (ns : List Node) : replay S (n :: ns) c l = replay S ns c' l' := by
  rw [show n :: ns = [n] ++ ns from rfl, replay_append, h]; rfl

/-- what code generation guarantees about the node list `ns` it produced between the states `st` and `st'` -/
structure Post (st : GenState) (ns : List Node) (st' : GenState) : Prop where
  last : st'.r.lastUsed + 1 = st'.r.scopes.size
  cur : st'.r.current = st.r.current
  agrees : Agrees st.r.scopes st'.r.scopes
  replays : ∀ ext, Agrees st'.r.scopes ext →
    replay ext ns st.r.current st.r.lastUsed = some (st.r.current, st'.r.lastUsed)

/-- the states code generation runs in: every scope created so far has been entered, the current scope exists -/
structure GenInv (st : GenState) : Prop where
  last : st.r.lastUsed + 1 = st.r.scopes.size
  cur : st.r.current < st.r.scopes.size

theorem Post.inv {st st' : GenState} {ns : List Node} (h : GenInv st) (p : Post st ns st') : GenInv st' :=
  ⟨p.last, by rw [p.cur]; exact Nat.lt_of_lt_of_le h.cur p.agrees.1⟩

theorem Post.append {st st1 st2 : GenState} {a b : List Node} (p1 : Post st a st1) (p2 : Post st1 b st2) :
    Post st (a ++ b) st2 :=
  ⟨p2.last, by rw [p2.cur, p1.cur], p1.agrees.trans p2.agrees, fun ext hext => by
    rw [replay_append, p1.replays ext (p2.agrees.trans hext), ← p1.cur]
    exact p2.replays ext hext⟩

/-- resolver updates that touch only symbols / tables / the user bus -/
structure SameShape (r r' : Resolver) : Prop where
  agrees : Agrees r.scopes r'.scopes
  size : r'.scopes.size = r.scopes.size
  cur : r'.current = r.current
  last : r'.lastUsed = r.lastUsed

theorem SameShape.refl (r : Resolver) : SameShape r r := ⟨Agrees.refl _, rfl, rfl, rfl⟩
theorem SameShape.trans {a b c : Resolver} (h1 : SameShape a b) (h2 : SameShape b c) : SameShape a c :=
  ⟨h1.agrees.trans h2.agrees, by rw [h2.size, h1.size], by rw [h2.cur, h1.cur], by rw [h2.last, h1.last]⟩

theorem modifyCur_same (r : Resolver) (f : ScopeRec → ScopeRec) (hf : ∀ s, (f s).parent = s.parent) :
    SameShape r (r.modifyCur f) := by
  refine ⟨⟨Nat.le_of_eq (modifyCur_size r f).symm, fun i _ => ?_⟩, modifyCur_size r f, rfl, rfl⟩
  show ((r.modifyCur f).scopeAt i).parent = (r.scopeAt i).parent
  rw [scopeAt_modifyCur]
  split
  · exact hf _
  · rfl

theorem addSymbol_same (r : Resolver) (n : String) (v : Int) : SameShape r (r.addSymbol n v) :=
  modifyCur_same r _ (fun _ => rfl)
theorem addCodeSymbol_same (r : Resolver) (n : String) (b : List Ast) : SameShape r (r.addCodeSymbol n b) :=
  modifyCur_same r _ (fun _ => rfl)
theorem addLabel_same (r : Resolver) (n : String) (v : Int) : SameShape r (r.addLabel n v) :=
  modifyCur_same r _ (fun _ => rfl)

theorem bindParams_same : ∀ (bound : List (String × Bound)) (r : Resolver), SameShape r (bindParams r bound) := by
  intro bound r
  fun_induction bindParams r bound with
  | case1 r => exact .refl r
  | case2 r p v rest ih => exact (addSymbol_same r p v).trans ih
  | case3 r p b rest ih => exact (addCodeSymbol_same r p b).trans ih
  | case4 r _ _ rest ih => exact ih

theorem deferredNodes_leaves : ∀ (bound : List (String × Bound)), ∀ n ∈ deferredNodes bound, Node.isScopeMark n = false := by
  intro bound
  fun_induction deferredNodes bound with
  | case1 => exact nil_leaves
  | case2 p e rest ih =>
    intro n h
    rcases List.mem_cons.mp h with rfl | h
    · rfl
    · exact ih n h
  | case3 x rest hne ih => exact ih

theorem genMapR_same (args : List (String × MapVal)) (r r' : Resolver) (h : genMapR args r = .ok r') : SameShape r r' := by
  -- the only `.ok` branch of `genMapR` returns `{ r with userBus := b }`
  unfold genMapR at h
  split at h
  any_goals (cases h)
  simp only at h
  split at h
  · cases h
  · split at h
    · cases h
    · split at h
      · cases h
      · split at h
        · cases h
        · split at h
          · cases h; exact ⟨Agrees.refl _, rfl, rfl, rfl⟩
          · cases h

theorem Post.of_same {st st' : GenState} (h : GenInv st) (hs : SameShape st.r st'.r) (ns : List Node)
    (hleaf : ∀ n ∈ ns, Node.isScopeMark n = false) : Post st ns st' :=
  ⟨by rw [hs.last, hs.size]; exact h.last, hs.cur, hs.agrees, fun ext _ => by rw [replay_leaves hleaf, hs.last]⟩

def RunsTo {α} (m : GM α) (st : GenState) (a : α) (st' : GenState) : Prop := m.run st = .ok (a, st')

theorem runsTo_bind {α β} {m : GM α} {f : α → GM β} {st : GenState} {b : β} {st2 : GenState} :
    RunsTo (m >>= f) st b st2 ↔ ∃ a st1, RunsTo m st a st1 ∧ RunsTo (f a) st1 b st2 := by
  unfold RunsTo
  rw [StateT.run_bind]
  cases m.run st with
  | error e => exact ⟨nofun, fun ⟨_, _, h, _⟩ => nomatch h⟩
  | ok p => exact ⟨fun h => ⟨p.1, p.2, rfl, h⟩, fun ⟨_, _, h1, h2⟩ => by cases h1; exact h2⟩

theorem runsTo_ok {α} {m : GM α} {st : GenState} {x : α} {s : GenState} (h : m.run st = .ok (x, s)) {a : α} {st' : GenState} :
    RunsTo m st a st' ↔ a = x ∧ st' = s := by
  unfold RunsTo; rw [h]
  exact ⟨fun e => by cases e; exact ⟨rfl, rfl⟩, fun ⟨e1, e2⟩ => by rw [e1, e2]⟩

theorem runsTo_pure {α} {a b : α} {st st' : GenState} : RunsTo (pure a : GM α) st b st' ↔ b = a ∧ st' = st := runsTo_ok rfl

theorem runsTo_get {st a st' : GenState} : RunsTo (get : GM GenState) st a st' ↔ a = st ∧ st' = st := runsTo_ok rfl

theorem runsTo_set {s st : GenState} {a : Unit} {st' : GenState} : RunsTo (set s : GM Unit) st a st' ↔ st' = s :=
  (runsTo_ok rfl).trans (and_iff_right rfl)

theorem runsTo_modify {f : GenState → GenState} {st : GenState} {a : Unit} {st' : GenState} :
    RunsTo (modify f : GM Unit) st a st' ↔ st' = f st := (runsTo_ok rfl).trans (and_iff_right rfl)

theorem runsTo_modR {f : Resolver → Resolver} {st : GenState} {a : Unit} {st' : GenState} :
    RunsTo (modR f) st a st' ↔ st' = { st with r := f st.r } := runsTo_modify

theorem runsTo_throw {α} {e : Err} {st : GenState} {a : α} {st' : GenState} : ¬ RunsTo (throw e : GM α) st a st' :=
  fun h => nomatch (show Except.error e = Except.ok (a, st') from h)

/-- a resolver operation that may fail, lifted to the generator state: the shape of `gUseNext` and `gRestore` -/
theorem runsTo_opt (o : Resolver → Option Resolver) (e : Err) {st : GenState} {a : Unit} {st' : GenState} :
    RunsTo (do let st ← get; match o st.r with | some r => set { st with r := r } | none => throw e) st a st' ↔
      ∃ r, o st.r = some r ∧ st' = { st with r := r } := by
  show RunsTo (match o st.r with | some r => set { st with r := r } | none => throw e) st a st' ↔ _
  cases o st.r with
  | none => exact ⟨fun h => absurd h runsTo_throw, nofun⟩
  | some r => exact runsTo_set.trans ⟨fun h => ⟨r, rfl, h⟩, fun ⟨_, hr, h⟩ => Option.some.inj hr ▸ h⟩

theorem runsTo_gUseNext {st : GenState} {a : Unit} {st' : GenState} :
    RunsTo gUseNext st a st' ↔ ∃ r, st.r.useNextScope = some r ∧ st' = { st with r := r } :=
  runsTo_opt Resolver.useNextScope .index

theorem runsTo_gRestore {ex : Bool} {st : GenState} {a : Unit} {st' : GenState} :
    RunsTo (gRestore ex) st a st' ↔ ∃ r, st.r.restoreScope ex = some r ∧ st' = { st with r := r } :=
  runsTo_opt (Resolver.restoreScope · ex) .runtime

theorem appendScope_spec (r : Resolver) (k : ScopeKind) :
    (r.appendScope k).scopes.size = r.scopes.size + 1 ∧ Agrees r.scopes (r.appendScope k).scopes ∧
    ((r.appendScope k).scopes.getD r.scopes.size default).parent = some r.current ∧
    (r.appendScope k).current = r.current ∧ (r.appendScope k).lastUsed = r.lastUsed := by
  unfold Resolver.appendScope
  refine ⟨Array.size_push _, ⟨by rw [Array.size_push]; omega, fun i hi => ?_⟩, ?_, rfl, rfl⟩
  · show ((r.scopes.push _).getD i default).parent = _
    rw [getD_push, if_neg (Nat.ne_of_lt hi)]
  · show ((r.scopes.push _).getD r.scopes.size default).parent = _
    rw [getD_push, if_pos rfl]

theorem useNextScope_spec (r r' : Resolver) (h : r.useNextScope = some r') :
    r.lastUsed + 1 < r.scopes.size ∧ r'.scopes = r.scopes ∧ r'.current = r.lastUsed + 1 ∧ r'.lastUsed = r.lastUsed + 1 := by
  obtain ⟨hlt, rfl⟩ := useNextScope_some h
  exact ⟨hlt, rfl, rfl, rfl⟩

/-- the state in which the body of a scope construct runs, and how the construct ends -/
theorem withScope_runs {kind : ScopeKind} {prep : Resolver → Resolver} (hprep : ∀ r, SameShape r (prep r))
    {pre : List Node} {body : GM (List Node)} {st st' : GenState} {ns : List Node} (hinv : GenInv st)
    (h : RunsTo (withScope kind prep pre body) st ns st') :
    ∃ st3 inner st4, RunsTo body st3 inner st4 ∧ ns = Node.scopeEnter :: (pre ++ (inner ++ [Node.scopePop])) ∧
      GenInv st3 ∧ st3.r.current = st.r.scopes.size ∧ st3.r.lastUsed = st.r.scopes.size ∧
      st3.r.scopes.size = st.r.scopes.size + 1 ∧ Agrees st.r.scopes st3.r.scopes ∧
      (st3.r.scopes.getD st.r.scopes.size default).parent = some st.r.current ∧
      ∃ p, (st4.r.scopes.getD st4.r.current default).parent = some p ∧ st' = { st4 with r := { st4.r with current := p } } := by
  unfold withScope at h
  simp only [runsTo_bind, runsTo_modR, runsTo_gUseNext, runsTo_gRestore, runsTo_pure] at h
  -- value, state and effect of each bind of `withScope` in turn: `appendScope`, `gUseNext` (`r2`), `prep`, the body (`inner`,
  -- `st4`), `gRestore` (`r5`); then the two equations of the closing `pure`
  obtain ⟨_, _, rfl, _, _, ⟨r2, hr2, rfl⟩, _, _, rfl, inner, st4, hb, _, _, ⟨r5, hr5, rfl⟩, rfl, rfl⟩ := h
  obtain ⟨hsz, hag1, hpar, hc1, hl1⟩ := appendScope_spec st.r kind
  obtain ⟨_, hs2, hc2, hl2⟩ := useNextScope_spec _ _ hr2
  obtain ⟨p, hp, rfl⟩ := restoreScope_some hr5
  simp only at hs2 hc2 hl2
  -- the new scope is entered: `lastUsed + 1` is its index, by `GenInv`
  have h3 := hprep r2
  have hcur : (prep r2).current = st.r.scopes.size := by rw [h3.cur, hc2, hl1, hinv.last]
  have hlast : (prep r2).lastUsed = st.r.scopes.size := by rw [h3.last, hl2, hl1, hinv.last]
  have hsize : (prep r2).scopes.size = st.r.scopes.size + 1 := by rw [h3.size, hs2, hsz]
  refine ⟨_, inner, st4, hb, by simp, ⟨by rw [hlast, hsize], by rw [hcur, hsize]; omega⟩, hcur, hlast, hsize,
    hag1.trans (hs2 ▸ h3.agrees), ?_, p, hp, rfl⟩
  rw [h3.agrees.2 _ (by rw [hs2, hsz]; omega), hs2]; exact hpar

/-- `m` creates, enters and leaves no scope -/
def Quiet {α} (m : GM α) : Prop := ∀ st a st', RunsTo m st a st' → SameShape st.r st'.r

/-- the node list `m` produces satisfies `Post`, from every state code generation runs in -/
def Good (m : GM (List Node)) : Prop := ∀ st ns st', GenInv st → RunsTo m st ns st' → Post st ns st'

theorem Quiet.of_eq {α} {m : GM α} (h : ∀ st a st', RunsTo m st a st' → st' = st) : Quiet m :=
  fun st a st' hr => h st a st' hr ▸ SameShape.refl _

theorem Quiet.pure {α} (a : α) : Quiet (pure a : GM α) := .of_eq fun _ _ _ h => (runsTo_pure.mp h).2

theorem Quiet.get : Quiet (get : GM GenState) := .of_eq fun _ _ _ h => (runsTo_get.mp h).2

theorem Quiet.throw {α} (e : Err) : Quiet (throw e : GM α) := fun _ _ _ h => absurd h runsTo_throw

theorem Quiet.modify {f : GenState → GenState} (hf : ∀ st, SameShape st.r (f st).r) : Quiet (modify f : GM Unit) :=
  fun st _ _ h => runsTo_modify.mp h ▸ hf st

theorem Quiet.bind {α β} {m : GM α} {f : α → GM β} (hm : Quiet m) (hf : ∀ a, Quiet (f a)) : Quiet (m >>= f) := by
  intro st b st2 h
  obtain ⟨a, st1, h1, h2⟩ := runsTo_bind.mp h
  exact (hm st a st1 h1).trans (hf a st1 b st2 h2)

theorem Quiet.liftOpt {α} (e : Err) (o : Option α) : Quiet (liftOpt e o) := by
  cases o
  · exact .throw e
  · exact .pure _

theorem Quiet.gEval (env : Env) (e : PExpr) : Quiet (gEval env e) :=
  .bind .get fun st => by
    split
    · exact .pure _
    · exact .throw _

theorem Quiet.genMap (args : List (String × MapVal)) : Quiet (genMap args) := by
  intro st u st' h
  obtain ⟨s, st1, h1, h2⟩ := runsTo_bind.mp h
  obtain ⟨rfl, rfl⟩ := runsTo_get.mp h1
  split at h2
  · rename_i r hr
    rw [runsTo_set.mp h2]; exact genMapR_same args _ r hr
  · exact absurd h2 runsTo_throw

theorem Good.leaf {l : List Node} (hl : ∀ n ∈ l, Node.isScopeMark n = false) : Good (pure l : GM (List Node)) := by
  intro st ns st' hinv h
  obtain ⟨rfl, rfl⟩ := runsTo_pure.mp h
  exact Post.of_same hinv (SameShape.refl _) _ hl

theorem Good.throw (e : Err) : Good (throw e) := fun _ _ _ _ h => absurd h runsTo_throw

theorem Good.bind {α} {m : GM α} {f : α → GM (List Node)} (hm : Quiet m) (hf : ∀ a, Good (f a)) : Good (m >>= f) := by
  intro st ns st2 hinv h
  obtain ⟨a, st1, h1, h2⟩ := runsTo_bind.mp h
  have p1 : Post st [] st1 := Post.of_same hinv (hm st a st1 h1) [] nil_leaves
  exact p1.append (hf a st1 ns st2 (p1.inv hinv) h2)

theorem mapM_post {β} {f : β → GM (List Node)} (hf : ∀ b, Good (f b)) :
    ∀ (l : List β) (st : GenState) (parts : List (List Node)) (st' : GenState), GenInv st →
      RunsTo (l.mapM f) st parts st' → Post st parts.flatten st' := by
  intro l
  induction l with
  | nil =>
    intro st parts st' hinv h
    rw [List.mapM_nil, runsTo_pure] at h
    rw [h.1, h.2]
    exact Post.of_same hinv (SameShape.refl _) [] nil_leaves
  | cons b bs ih =>
    intro st parts st' hinv h
    rw [List.mapM_cons] at h
    simp only [runsTo_bind, runsTo_pure] at h
    obtain ⟨ns, st1, h1, rest, st2, h2, hparts, hst⟩ := h
    rw [hparts, hst]
    have p1 := hf b st ns st1 hinv h1
    have p2 := ih st1 rest st2 (p1.inv hinv) h2
    simpa using p1.append p2

/-- the parts of a statement list, or of the iterations of a loop, one after the other (the shape of `genListWith`) -/
theorem Good.flatten {β} {f : β → GM (List Node)} (hf : ∀ b, Good (f b)) (l : List β) :
    Good (l.mapM f >>= fun parts => pure parts.flatten) := by
  intro st ns st' hinv h
  simp only [runsTo_bind, runsTo_pure] at h
  obtain ⟨parts, st1, h1, hns, hst⟩ := h
  rw [hns, hst]
  exact mapM_post hf l st parts st1 hinv h1

/-- **a scope-opening construct replays lexically**: if the body satisfies `Post` from the state in which the
    new scope is current, the whole construct does from the outer state -/
theorem Good.withScope {kind : ScopeKind} {prep : Resolver → Resolver} (hprep : ∀ r, SameShape r (prep r))
    {pre : List Node} (hpre : ∀ n ∈ pre, Node.isScopeMark n = false) {body : GM (List Node)} (hbody : Good body) :
    Good (withScope kind prep pre body) := by
  intro st ns st' hinv h
  obtain ⟨st3, inner, st4, hb, rfl, hinv3, hc3, hl3, hsz3, hag3, hpar3, p, hp, rfl⟩ := withScope_runs hprep hinv h
  have pb := hbody st3 inner st4 hinv3 hb
  -- the scope being left is the one that was appended; its parent is the outer current scope
  have hpar4 : (st4.r.scopes.getD st.r.scopes.size default).parent = some st.r.current := by
    rw [pb.agrees.2 _ (by omega)]; exact hpar3
  have hpeq : p = st.r.current := by rw [pb.cur, hc3, hpar4] at hp; cases hp; rfl
  subst hpeq
  refine ⟨pb.last, rfl, hag3.trans pb.agrees, fun ext hext => ?_⟩
  have hext : Agrees st4.r.scopes ext := hext
  have hr := pb.replays ext hext
  rw [hc3, hl3] at hr
  have hlt : st.r.lastUsed + 1 < ext.size := by have := pb.agrees.1; have := hext.1; have := hinv.last; omega
  have hpe : (ext.getD st.r.scopes.size default).parent = some st.r.current := by
    rw [hext.2 _ (by have := pb.agrees.1; omega)]; exact hpar4
  simp only [replay, hlt, ↓reduceIte]
  rw [replay_append, replay_leaves hpre, Option.bind_some, replay_append, hinv.last, hr]
  simp only [Option.bind_some, replay, hpe]

theorem iterationWith_eq (g : Ast → GM (List Node)) (sym : String) (body : List Ast) (k : Int) :
    iterationWith g sym body k = withScope .internal id [Node.symbolConst sym k] (genListWith g body) := rfl

/-- one more level of nesting: every statement kind is a chain of quiet steps that ends in leaf nodes, in the parts of a
    statement list, or in a scope-opening construct around one -/
theorem gen_succ (env : Env) (fuel : Nat) (ih : ∀ ast, Good (gen env fuel ast)) (ast : Ast) : Good (gen env (fuel + 1) ast) := by
  have hl : ∀ l, Good (genListWith (gen env fuel) l) := Good.flatten ih
  unfold gen
  cases ast with
  | block body i => exact hl body
  | scope name body i => exact .withScope (fun r => .refl r) nil_leaves (hl body)
  | compound body i => exact .withScope (fun r => .refl r) nil_leaves (hl body)
  | map args i => exact .bind (.genMap args) fun _ => .leaf nil_leaves
  | «macro» name params body i => exact .bind (.modify fun st => .refl _) fun _ => .leaf nil_leaves
  | macroApply name args i =>
    refine .bind .get fun st => .bind (.liftOpt _ _) fun md => ?_
    split
    · exact .throw _
    · exact .withScope (bindParams_same _) (deferredNodes_leaves _) (hl md.body)
  | codeLookup name info =>
    refine .bind .get fun st => ?_
    split
    · exact hl _
    · exact .throw _
    · exact .throw _
  | ifNode cond thenB elseB i =>
    refine .bind .get fun st => ?_
    -- the two branches are a join point `jp`, entered with the condition's value
    extract_lets jp
    have hj : ∀ c, Good (jp c) := fun c => by
      simp only [jp]
      split
      · exact hl thenB
      · split
        · exact hl _
        · exact .leaf nil_leaves
    clear_value jp
    split
    · exact .bind (.pure _) hj
    · exact .bind (.pure _) hj
    · exact .bind (.pure _) hj
    · exact .bind (.throw _) hj
  | forNode sym lo hi body i =>
    -- an iteration is a `withScope` (`iterationWith_eq`)
    exact .bind (.gEval env lo) fun a => .bind (.gEval env hi) fun b =>
      .flatten (fun j => .withScope (fun r => .refl r) (leaf1 _ rfl) (hl body)) _
  | atEq e info => exact .leaf (leaf1 _ rfl)
  | starEq e info => exact .leaf (leaf1 _ rfl)
  | table path i =>
    refine .bind .get fun st => .bind (.liftOpt _ _) fun src => ?_
    split
    · exact .bind (.throw _) fun _ => .leaf (leaf1 _ rfl)
    · exact .bind (.modify fun st => modifyCur_same st.r _ fun _ => rfl) fun _ => .leaf (leaf1 _ rfl)
  | text t info => exact .bind .get fun st => .leaf (leaf1 _ rfl)
  | ascii t i => exact .leaf (leaf1 _ rfl)
  | data kind es info => exact .leaf fun n hn => by obtain ⟨e, _, rfl⟩ := List.mem_map.mp hn; rfl
  | symbol name e i => exact .leaf (leaf1 _ rfl)
  | assign name e i =>
    exact .bind (.gEval env e) fun v => .bind (.modify fun st => addSymbol_same st.r name v) fun _ => .leaf nil_leaves
  | label name i => exact .leaf (leaf1 _ rfl)
  | opcode mode mn size operand index info =>
    dsimp only
    split
    · exact .leaf (leaf1 _ rfl)
    · split
      · exact .throw _
      · exact .leaf (leaf1 _ rfl)
  | incbin path i => exact .bind .get fun st => .bind (.liftOpt _ _) fun c => .leaf (leaf1 _ rfl)
  | includeIps path e i =>
    refine .bind (.gEval env e) fun d => .bind .get fun st => .bind (.liftOpt _ _) fun c => ?_
    split
    · exact .leaf (leaf1 _ rfl)
    · exact .throw _
  | struct a b => exact .throw _

/-- **every generator call satisfies `Post`**, for every nesting budget -/
theorem gen_good (env : Env) : ∀ fuel ast, Good (gen env fuel ast)
  | 0, _ => by unfold gen; exact .throw _
  | fuel + 1, ast => gen_succ env fuel (gen_good env fuel) ast

theorem genList_good (env : Env) (fuel : Nat) (l : List Ast) : Good (genList env fuel l) := Good.flatten (gen_good env fuel) l

/-- the scope bookkeeping of a resolver step that does not enter or leave a scope (the fields of `SameShape`) -/
structure Still (r r' : Resolver) : Prop where
  agrees : Agrees r.scopes r'.scopes
  size : r'.scopes.size = r.scopes.size
  cur : r'.current = r.current
  last : r'.lastUsed = r.lastUsed

theorem leftScopes_agrees (r : Resolver) (ex : Bool) (p : Nat) : Agrees r.scopes (r.leftScopes ex p) :=
  ⟨Nat.le_of_eq (leftScopes_size r ex p).symm, fun i _ => by
    obtain ⟨_, hs, _⟩ := leftScopes_getD r ex p i; rw [hs]⟩

/-- the traversal that took `r` to `r'` over `ns` moved through the scopes as `replay` says, and kept the shape of the scope array -/
def Follows (ns : List Node) (r r' : Resolver) : Prop :=
  replay r.scopes ns r.current r.lastUsed = some (r'.current, r'.lastUsed) ∧ Agrees r.scopes r'.scopes ∧
    r'.scopes.size = r.scopes.size

theorem Follows.same {n : Node} {r r' : Resolver} (hm : LabelCheck.isMarker n = false) (hs : SameShape r r') : Follows [n] r r' :=
  ⟨by rw [replay_one r.scopes hm, hs.cur, hs.last], hs.agrees, hs.size⟩

theorem Follows.enter {r : Resolver} (hlt : r.lastUsed + 1 < r.scopes.size) :
    Follows [.scopeEnter] r { r with lastUsed := r.lastUsed + 1, current := r.lastUsed + 1 } :=
  ⟨by simp only [replay, hlt, ↓reduceIte], Agrees.refl _, rfl⟩

theorem Follows.leave {r : Resolver} (ex : Bool) {p : Nat} (hp : r.cur.parent = some p) :
    Follows [.scopePop] r { r with scopes := r.leftScopes ex p, current := p } :=
  have hp' : (r.scopes.getD r.current default).parent = some p := hp
  ⟨by simp only [replay, hp'], leftScopes_agrees r ex p, leftScopes_size r ex p⟩

theorem pcAfter_replay {env : Env} {n : Node} {r r' : Resolver} {pc pc' : Address}
    (h : pcAfter env n r pc = .ok (r', pc')) : Follows [n] r r' := by
  cases pcAfter_step h with
  | enter hlt => exact .enter hlt
  | leave hp => exact .leave true hp
  | label name => exact .same rfl (addLabel_same r name _)
  | binary c base => exact .same rfl ((addLabel_same r base _).trans (addSymbol_same _ _ _))
  | symbol name v hm => exact .same hm (addSymbol_same r name v)
  | other hm => exact .same hm (.refl r)

theorem emitNode_replay {env : Env} {n : Node} {r r' : Resolver} {bs : List Nat}
    (h : emitNode env n r = .ok (r', bs)) : Follows [n] r r' := by
  cases emitNode_step h with
  | enter hlt => exact .enter hlt
  | leave hp => exact .leave false hp
  | pos _ _ hn => exact .same (by rcases hn with rfl | rfl <;> rfl) ⟨.refl _, rfl, rfl, rfl⟩
  | stay hm => exact .same hm (.refl _)

theorem replay_congr (a b : Array ScopeRec) (hag : Agrees a b) (hsz : b.size = a.size) :
    ∀ (ns : List Node) (c l : Nat), replay b ns c l = replay a ns c l := by
  have hpar : ∀ i, (b.getD i default).parent = (a.getD i default).parent := by
    intro i
    by_cases hi : i < a.size
    · exact hag.2 i hi
    · rw [Array.getD_eq_getD_getElem?, Array.getD_eq_getD_getElem?, Array.getElem?_eq_none (by omega), Array.getElem?_eq_none (by omega)]
  intro ns
  induction ns with
  | nil => intro c l; rfl
  | cons n ns ih =>
    intro c l
    cases n <;> simp only [replay, ih, hsz, hpar]

end A816.Replay
