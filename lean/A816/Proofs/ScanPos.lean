import A816.Proofs.ScanTotal
/-!
# Every token and every lexical error carries its true position (helper lemmas for C17 `scan_positions`)

`truePos a i` is the true zero-based (line, column) of index `i`; `Inv s`: the line bookkeeping of `s` is right at `pos`.
`Step s s'`: the scanner moved from `s` to `s'` by consuming characters none of which is a newline, and nothing else
happened.  `Ok inp s`: `s` is a state over the text `inp`, its bookkeeping is right at `pos`, the pending token text
(`start … pos`) holds no newline, and every token emitted so far (other than comments, which may span lines and carry no
errors) has the true (line, column) of some index of `inp`; `Ok0` is `Ok` without the condition on the pending text (inside
comments and blank lines).  Started in an `Ok` state, every scanner primitive and every state function (walked over the
pieces of `ScanProg`) returns an `Ok` state or raises a `ScannerException` whose position is a true position of `inp`
(`Post`).
-/
namespace A816.ScanP
open A816 Scan ScanB ScanT

seal lexNumber Scan.accept

/-- number of newlines in `input[0:n]` -/
def countNl (a : Array Char) (n : Nat) : Nat := ((a.toList.take n).filter (· = '\n')).length
/-- index just after the last newline in `input[0:n]` (0 if none) -/
def afterLastNl (a : Array Char) : Nat → Nat
  | 0 => 0
  | n+1 => if a[n]? = some '\n' then n + 1 else afterLastNl a n

/-- the true zero-based (line, column) of index `i` -/
def truePos (a : Array Char) (i : Nat) : Nat × Int := (countNl a i, (i : Int) - (afterLastNl a i : Int))

def Inv (s : Scan) : Prop := s.curLine = countNl s.input s.pos ∧ s.lineOffset = afterLastNl s.input s.pos

theorem afterLastNl_le (a : Array Char) (n : Nat) : afterLastNl a n ≤ n := by
  induction n with
  | zero => exact Nat.le_refl _
  | succ n ih => unfold afterLastNl; split <;> omega

theorem countNl_step (a : Array Char) (n : Nat) :
    countNl a (n + 1) = countNl a n + (if a[n]? = some '\n' then 1 else 0) := by
  unfold countNl
  rw [List.take_add_one, List.filter_append, List.length_append, Array.getElem?_toList]
  congr 1
  cases a[n]? with
  | none => rfl
  | some c => by_cases hc : c = '\n' <;> simp [hc]

theorem afterLastNl_step (a : Array Char) (n : Nat) (h : a[n]? ≠ some '\n') : afterLastNl a (n + 1) = afterLastNl a n := by
  rw [afterLastNl, if_neg h]

/-- **line bookkeeping is an invariant of `next()`** -/
theorem next_inv (s : Scan) (h : Inv s) : Inv (s.next).1 := by
  unfold Scan.next
  by_cases hlt : s.pos < s.input.size
  · simp only [hlt, ↓reduceDIte]
    obtain ⟨h1, h2⟩ := h
    have hc : s.input[s.pos]? = some s.input[s.pos] := Array.getElem?_eq_getElem hlt
    have hcn := countNl_step s.input s.pos
    have hle := afterLastNl_le s.input s.pos
    by_cases hnl : s.input[s.pos] = '\n'
    · simp only [hnl, ↓reduceIte]
      unfold Inv handleLine
      rw [if_pos (by omega)]
      exact ⟨by rw [hcn, hc, hnl, if_pos rfl, ← h1], by simp only [afterLastNl, hc, hnl, ↓reduceIte]⟩
    · have hne : s.input[s.pos]? ≠ some '\n' := by rw [hc]; exact fun hx => hnl (Option.some.inj hx)
      simp only [hnl, ↓reduceIte]
      exact ⟨by rw [hcn, if_neg hne]; exact h1, by rw [afterLastNl_step _ _ hne]; exact h2⟩
  · simp only [hlt, ↓reduceDIte]; exact h

theorem init_inv (input : Array Char) (file : Nat) : Inv { input := input, file := file } := ⟨rfl, rfl⟩

/-- no newline in `input[i:j]` -/
def NoNl (a : Array Char) (i j : Nat) : Prop := ∀ k, i ≤ k → k < j → a[k]? ≠ some '\n'

/-- over a stretch without newline the line number and the line start do not change -/
theorem noNl_same (a : Array Char) (i : Nat) : ∀ (d : Nat), NoNl a i (i + d) →
    countNl a (i + d) = countNl a i ∧ afterLastNl a (i + d) = afterLastNl a i := by
  intro d
  induction d with
  | zero => intro _; exact ⟨rfl, rfl⟩
  | succ d ih =>
    intro hn
    have hne : a[i + d]? ≠ some '\n' := hn (i + d) (by omega) (by omega)
    rw [← Nat.add_assoc, countNl_step, afterLastNl_step a (i + d) hne, if_neg hne]
    exact ih fun k h1 h2 => hn k h1 (by omega)

theorem noNl_same' (a : Array Char) (i j : Nat) (hij : i ≤ j) (hn : NoNl a i j) :
    countNl a j = countNl a i ∧ afterLastNl a j = afterLastNl a i := by
  obtain ⟨d, rfl⟩ : ∃ d, j = i + d := ⟨j - i, by omega⟩
  exact noNl_same a i d hn

/-- **positions are true positions**: with the invariant at `pos`, and no newline between `start` and
    `pos`, the pair (`current_line`, `start − line_offset`) that `emit` and every `ScannerException` use is the
    true (line, column) of `start`. -/
theorem position_is_truePos (s : Scan) (h : Inv s) (hsp : s.start ≤ s.pos) (hps : s.pos ≤ s.input.size)
    (hn : NoNl s.input s.start s.pos) :
    ((s.curLine, (s.start : Int) - (s.lineOffset : Int)) : Nat × Int) = truePos s.input s.start := by
  unfold truePos
  rw [h.1, h.2, (noNl_same' _ _ _ hsp hn).1, (noNl_same' _ _ _ hsp hn).2]

/-- the token `emit` appends carries exactly that pair, and so does the error built by `Scan.err` -/
theorem emit_position (s : Scan) (ty : TokTy) :
    ((s.emit ty).toks.back?).map (fun t => (t.line, t.col)) = some ((s.curLine : Int), (s.start : Int) - (s.lineOffset : Int)) := by
  simp only [Scan.emit, Array.back?_push, Option.map_some]

theorem err_position (s : Scan) (msg : String) :
    s.err msg = .scan msg (s.curLine : Int) ((s.start : Int) - (s.lineOffset : Int)) := rfl

/-- the true position of an index depends only on the text before it (whether or not the index lies inside the texts) -/
theorem truePos_congr (a b : Array Char) (i : Nat) (h : ∀ k, k < i → a[k]? = b[k]?) : truePos a i = truePos b i := by
  have hc : ∀ n, n ≤ i → countNl a n = countNl b n ∧ afterLastNl a n = afterLastNl b n := by
    intro n
    induction n with
    | zero => intro _; exact ⟨rfl, rfl⟩
    | succ n ih =>
      intro hn
      rw [countNl_step, countNl_step, afterLastNl, afterLastNl, h n (by omega), (ih (by omega)).1, (ih (by omega)).2]
      exact ⟨rfl, rfl⟩
  unfold truePos
  rw [(hc i (Nat.le_refl _)).1, (hc i (Nat.le_refl _)).2]

theorem truePos_prefix (a b : Array Char) (i : Nat) (h : ∀ k, k < i → a[k]? = b[k]?) (ha : i ≤ a.size) (hb : i ≤ b.size) :
    truePos a i = truePos b i :=
  truePos_congr a b i h

theorem NoNl.append {a : Array Char} {i j k : Nat} (h1 : NoNl a i j) (h2 : NoNl a j k) : NoNl a i k := by
  intro x hx1 hx2
  by_cases hxj : x < j
  · exact h1 x hx1 hxj
  · exact h2 x (by omega) hx2

theorem NoNl.empty (a : Array Char) (i : Nat) : NoNl a i i := fun k h1 h2 => by omega

/-- from `s` to `s'` the scanner consumed characters none of which is a newline, and nothing else happened -/
structure Step (s s' : Scan) : Prop where
  input : s'.input = s.input
  pos : s.pos ≤ s'.pos
  toks : s'.toks = s.toks
  start : s'.start = s.start
  line : s'.curLine = s.curLine
  off : s'.lineOffset = s.lineOffset
  file : s'.file = s.file
  nonl : NoNl s.input s.pos s'.pos

theorem Step.refl (s : Scan) : Step s s := ⟨rfl, Nat.le_refl _, rfl, rfl, rfl, rfl, rfl, NoNl.empty _ _⟩

theorem Step.trans {a b c : Scan} (h1 : Step a b) (h2 : Step b c) : Step a c :=
  ⟨by rw [h2.input, h1.input], Nat.le_trans h1.pos h2.pos, by rw [h2.toks, h1.toks], by rw [h2.start, h1.start],
   by rw [h2.line, h1.line], by rw [h2.off, h1.off], by rw [h2.file, h1.file],
   h1.nonl.append (by have := h2.nonl; rw [h1.input] at this; exact this)⟩

theorem step_advance (s : Scan) (n : Nat) (h : NoNl s.input s.pos (s.pos + n)) : Step s { s with pos := s.pos + n } :=
  ⟨rfl, Nat.le_add_right _ _, rfl, rfl, rfl, rfl, rfl, h⟩

theorem step_next (s : Scan) (h : s.peek ≠ '\n') : Step s (s.next).1 := by
  by_cases hlt : s.pos < s.input.size
  · have hc := peek_eq s hlt
    have hne : s.input[s.pos] ≠ '\n' := fun hx => h (Option.some.inj (by rw [← hc, Array.getElem?_eq_getElem hlt, hx]))
    unfold Scan.next
    simp only [hlt, ↓reduceDIte, hne, ↓reduceIte]
    refine step_advance s 1 fun k hk1 hk2 => ?_
    rw [show k = s.pos by omega, hc]
    exact fun hx => h (Option.some.inj hx)
  · rw [(next_pos_ge s hlt).1]; exact Step.refl s

theorem step_accept (s : Scan) (cands : List Char) (negate : Bool)
    (h : s.acceptTest cands negate = true → s.peek ≠ '\n') : Step s (s.accept cands negate).1 := by
  unfold Scan.accept
  split
  · rename_i ht; exact step_next s (h ht)
  · exact Step.refl s

/-- the two ways the code calls `accept`: plain with candidates that hold no newline, negated with candidates that hold it -/
theorem acceptTest_nonl (s : Scan) (cands : List Char) (negate : Bool)
    (hc : if negate then cands.contains '\n' = true else cands.contains '\n' = false) :
    s.acceptTest cands negate = true → s.peek ≠ '\n' := by
  intro ht hp
  unfold Scan.acceptTest at ht
  rw [hp] at ht
  cases negate
  · rw [if_neg Bool.false_ne_true] at ht hc; rw [hc] at ht; cases ht
  · rw [if_pos rfl] at ht hc; rw [hc] at ht; cases ht

theorem step_acceptRun {s s' : Scan} {cands : List Char} {negate : Bool}
    (hc : if negate then cands.contains '\n' = true else cands.contains '\n' = false)
    (h : s.acceptRun cands negate = .ok s') : Step s s' :=
  (acceptRun_ind (P := Step s) (fun u hu _ => hu.trans (step_accept u cands negate (acceptTest_nonl u cands negate hc)))
    (Step.refl s) h).1

theorem noNl_of_take {a : Array Char} {p n : Nat} (h : '\n' ∉ (a.toList.drop p).take n) : NoNl a p (p + n) := by
  intro k hk1 hk2 hx
  have : ((a.toList.drop p).take n)[k - p]? = some '\n' := by
    rw [List.getElem?_take, if_pos (by omega), List.getElem?_drop, show p + (k - p) = k by omega, Array.getElem?_toList]
    exact hx
  exact h (List.mem_of_getElem? this)

theorem step_acceptPrefix (s : Scan) (pre : List Char) (hp : pre.contains '\n' = false) : Step s (s.acceptPrefix pre).1 := by
  unfold Scan.acceptPrefix
  split
  · rename_i hc
    refine step_advance s pre.length (noNl_of_take fun hm => ?_)
    rw [hc.1] at hm
    rw [List.contains_iff_mem.mpr hm] at hp
    cases hp
  · exact Step.refl s

/-- no mnemonic of the configuration contains a newline (true of the generated tables: see `Props/C17`) -/
def CfgOK (cfg : ScanCfg) : Prop := ∀ m ∈ cfg.mnemonics, ∀ c ∈ m.toList, c ≠ '\n'

theorem asciiLower_nl (l : List Char) (h : ∀ c ∈ (asciiLower (String.ofList l)).toList, c ≠ '\n') : ∀ c ∈ l, c ≠ '\n' := by
  intro c hc hx
  subst hx
  apply h '\n' _ rfl
  unfold asciiLower
  simp only [String.toList_ofList, List.mem_map]
  exact ⟨'\n', hc, by decide⟩

theorem mnemonic_noNl (cfg : ScanCfg) (hcfg : CfgOK cfg) (s : Scan) (e : Nat)
    (hm : cfg.mnemonics.contains (asciiLower (s.slice s.start e)) = true) : NoNl s.input s.start e := by
  intro k hk1 hk2
  refine noNl_of_take (n := e - s.start) (fun hx => ?_) k hk1 (by omega)
  exact asciiLower_nl _ (hcfg _ (List.contains_iff_mem.mp hm)) '\n' hx rfl

theorem step_acceptOpcode (cfg : ScanCfg) (hcfg : CfgOK cfg) (s : Scan) (hsp : s.start ≤ s.pos) : Step s (acceptOpcode cfg s).1 := by
  unfold acceptOpcode
  simp only []
  split
  · rename_i hc
    rw [Bool.and_eq_true] at hc
    exact step_advance s 3 fun k hk1 hk2 => mnemonic_noNl cfg hcfg s _ hc.1 k (by omega) hk2
  · exact Step.refl s

theorem acc_step (α : Acc) (hwf : α.wf = true) (s : Scan) : Step s (α.run s).1 := by
  cases α with
  | chars c => exact step_accept s c false (acceptTest_nonl s c false (Acc.wf_chars hwf).2)
  | pre q => exact step_acceptPrefix s q (Acc.wf_pre hwf).2

/-- the position a token carries is the true position of some index (comments may span lines and are exempt) -/
def TokOK (input : Array Char) (t : Tok) : Prop :=
  t.ty = .COMMENT ∨ ∃ i, t.line = ((truePos input i).1 : Int) ∧ t.col = (truePos input i).2

variable {inp : Array Char}

/-- between statements and inside comments: a state over the text `inp` whose bookkeeping and tokens are right -/
structure Ok0 (inp : Array Char) (s : Scan) : Prop where
  input : s.input = inp
  inv : Inv s
  toks : ∀ t ∈ s.toks.toList, TokOK inp t

/-- … and the pending token text holds no newline -/
structure Ok (inp : Array Char) (s : Scan) : Prop extends Ok0 inp s where
  sp : s.start ≤ s.pos
  nonl : NoNl inp s.start s.pos

theorem Ok0.next {s : Scan} (h : Ok0 inp s) : Ok0 inp (s.next).1 :=
  ⟨by rw [next_input, h.input], next_inv s h.inv, by rw [next_toks]; exact h.toks⟩

theorem Ok0.accept {s : Scan} (h : Ok0 inp s) (c : List Char) (n : Bool) : Ok0 inp (s.accept c n).1 := by
  unfold Scan.accept
  split
  · exact h.next
  · exact h

theorem Ok0.ignore {s : Scan} (h : Ok0 inp s) : Ok inp s.ignore := ⟨⟨h.input, h.inv, h.toks⟩, Nat.le_refl _, NoNl.empty _ _⟩

/-- `emit` of a comment, or of a token whose position is a true one -/
theorem Ok0.emit {s : Scan} (h : Ok0 inp s) (ty : TokTy)
    (ht : ty = .COMMENT ∨ ∃ i, (s.curLine : Int) = ((truePos inp i).1 : Int) ∧ (s.start : Int) - s.lineOffset = (truePos inp i).2) :
    Ok inp (s.emit ty) := by
  refine ⟨⟨h.input, h.inv, fun t hm => ?_⟩, Nat.le_refl _, NoNl.empty _ _⟩
  simp only [Scan.emit, Array.toList_push, List.mem_append, List.mem_singleton] at hm
  rcases hm with hm | rfl
  · exact h.toks t hm
  · exact ht

theorem Ok0.step {s s' : Scan} (h : Ok0 inp s) (st : Step s s') : Ok0 inp s' := by
  obtain ⟨e1, e2⟩ := noNl_same' s.input s.pos s'.pos st.pos st.nonl
  exact ⟨by rw [st.input, h.input], ⟨by rw [st.line, st.input, e1]; exact h.inv.1, by rw [st.off, st.input, e2]; exact h.inv.2⟩,
    by rw [st.toks]; exact h.toks⟩

theorem Ok.step {s s' : Scan} (h : Ok inp s) (st : Step s s') : Ok inp s' :=
  ⟨h.toOk0.step st, by rw [st.start]; exact Nat.le_trans h.sp st.pos,
    by rw [st.start]; exact h.nonl.append (h.input ▸ st.nonl)⟩

theorem Ok.next {s : Scan} (h : Ok inp s) (hp : s.peek ≠ '\n') : Ok inp (s.next).1 := h.step (step_next s hp)
theorem Ok.next' {s : Scan} (h : Ok inp s) (hne : (s.next).2 ≠ some '\n') : Ok inp (s.next).1 := by
  by_cases hlt : s.pos < s.input.size
  · exact h.next fun hx => hne (by rw [next_snd s hlt, hx])
  · rw [(next_pos_ge s hlt).1]; exact h

theorem Ok.acc {s : Scan} (h : Ok inp s) (α : Acc) (hwf : α.wf = true) : Ok inp (α.run s).1 := h.step (acc_step α hwf s)
theorem Ok.accept {s : Scan} (h : Ok inp s) (c : List Char) (hc : c.contains '\n' = false) : Ok inp (s.accept c).1 :=
  h.step (step_accept s c false (acceptTest_nonl s c false hc))

/-- the true position of the pending token start -/
theorem Ok.pos {s : Scan} (h : Ok inp s) :
    (s.curLine : Int) = ((truePos inp s.start).1 : Int) ∧ (s.start : Int) - (s.lineOffset : Int) = (truePos inp s.start).2 := by
  obtain ⟨e1, e2⟩ := noNl_same' inp s.start s.pos h.sp h.nonl
  unfold truePos
  rw [h.inv.1, h.inv.2, h.input, e1, e2]
  exact ⟨rfl, rfl⟩

theorem Ok.emit {s : Scan} (h : Ok inp s) (ty : TokTy) : Ok inp (s.emit ty) := h.toOk0.emit ty (.inr ⟨s.start, h.pos⟩)

/-- back to a position inside the pending (newline-free) text -/
theorem Ok.rewind {s : Scan} (h : Ok inp s) (q : Nat) (h1 : s.start ≤ q) (h2 : q ≤ s.pos) : Ok inp { s with pos := q } := by
  obtain ⟨e1, e2⟩ := noNl_same' inp q s.pos h2 fun k hk1 hk2 => h.nonl k (by omega) hk2
  refine ⟨⟨h.input, ⟨?_, ?_⟩, h.toks⟩, h1, fun k hk1 hk2 => h.nonl k hk1 (Nat.lt_of_lt_of_le hk2 h2)⟩
  · show s.curLine = countNl s.input q; rw [h.inv.1, h.input, e1]
  · show s.lineOffset = afterLastNl s.input q; rw [h.inv.2, h.input, e2]

theorem Ok.backup {s : Scan} (h : Ok inp s) (hlt : s.start < s.pos) : Ok inp s.backup :=
  h.rewind (s.pos - 1) (by omega) (by omega)

/-- the position reset of `lex_opcode` after a look-ahead that consumed no newline -/
theorem Ok.setPos {s s3 : Scan} (h : Ok inp s) (st : Step s s3) : Ok inp ({ s3 with pos := s.pos } : Scan) :=
  (h.step st).rewind s.pos (st.start ▸ h.sp) st.pos

/-- the position of a scanner error -/
def ErrOK (input : Array Char) (e : Err) : Prop :=
  match e with
  | .scan _ l c => ∃ i, l = ((truePos input i).1 : Int) ∧ c = (truePos input i).2
  | _ => True

theorem Ok.errOK {s : Scan} (h : Ok inp s) (m : String) : ErrOK inp (s.err m) := ⟨s.start, h.pos⟩

/-- post-condition of a scanner function over the text `inp`: a state that is right, or an exception located in `inp` -/
inductive Post (inp : Array Char) : SR → Prop
  | ok {s : Scan} (h : Ok inp s) : Post inp (.ok s)
  | err {e : Err} {s : Scan} (h : ErrOK inp e) : Post inp (.error (e, s))

theorem Post.pure {s : Scan} (h : Ok inp s) : Post inp (pure s) := .ok h
theorem Post.state {s : Scan} (h : Post inp (.ok s)) : Ok inp s := by cases h; assumption

theorem Post.bind {r : SR} {f : Scan → SR} (h : Post inp r) (hf : ∀ s1, Ok inp s1 → Post inp (f s1)) : Post inp (r >>= f) := by
  cases h with
  | ok h1 => exact hf _ h1
  | err he => exact .err he

theorem Post.ite {c : Prop} [Decidable c] {x y : SR} (hx : c → Post inp x) (hy : ¬ c → Post inp y) :
    Post inp (if c then x else y) := by
  split
  · exact hx ‹_›
  · exact hy ‹_›

theorem Ok.err {s : Scan} (h : Ok inp s) (m : String) {s' : Scan} : Post inp (.error (s.err m, s')) :=
  .err (h.errOK m)

theorem post_acceptRun {s : Scan} (h : Ok inp s) (c : List Char) (n : Bool)
    (hc : if n then c.contains '\n' = true else c.contains '\n' = false) : Post inp (s.acceptRun c n) := by
  cases hr : s.acceptRun c n with
  | ok s' => exact .ok (h.step (step_acceptRun hc hr))
  | error e =>
    unfold Scan.acceptRun at hr
    split at hr
    · cases hr
    · cases hr; exact .err trivial

theorem post_ignoreRun {s : Scan} (h : Ok inp s) (c : List Char) (hc : c.contains '\n' = false) : Post inp (s.ignoreRun c) := by
  rw [ignoreRun_eq]
  exact (post_acceptRun h c false hc).bind fun _ h1 => .pure h1.toOk0.ignore

theorem post_emit {s : Scan} (h : Ok inp s) (ty : TokTy) : Post inp (pure (s.emit ty)) := .pure (h.emit ty)

theorem post_runEmit {s : Scan} (h : Ok inp s) (c : List Char) (hc : c.contains '\n' = false) (ty : TokTy) :
    Post inp (s.acceptRun c >>= fun s => pure (s.emit ty)) :=
  (post_acceptRun h c false hc).bind fun _ h2 => post_emit h2 ty

theorem post_identTail {s : Scan} (h : Ok inp s) : Post inp (identTail s) :=
  .ite (fun hc => .pure ((h.emit .LABEL).next (ne_nl_of (f := fun c => c == ':' && s.peek 1 != '=') rfl hc)).toOk0.ignore) fun _ =>
  .ite (fun hd => post_runEmit (h.next (ne_nl_of (f := (· == '.')) rfl hd)) _ high_ident.nl _) fun _ => post_emit h _

theorem post_lexIdentifier {s : Scan} (h : Ok inp s) : Post inp (lexIdentifier s) := by
  rw [lexIdentifier_eq]
  exact (post_acceptRun h identChars false high_ident.nl).bind fun _ => post_identTail

/-- the quoted-string loop: `c` is the character just consumed; a consumed newline ends the loop with the error
    built before the string was entered -/
theorem post_quotedLoop {x : Err} (hx : ErrOK inp x) : ∀ {n : Nat} {s : Scan} {c : Option Char},
    Ok0 inp s → (c ≠ some '\n' → Ok inp s) → Post inp (quotedLoop x n s c) := by
  intro n
  induction n with
  | zero => intro s c _ _; unfold quotedLoop; exact .err trivial
  | succ n ih =>
    intro s c h0 hok
    unfold quotedLoop
    refine .ite (fun hq => .ok (hok (by intro hx; rw [hx] at hq; exact absurd hq (by decide)))) fun _ =>
      .ite (fun _ => .err hx) fun h2 => ?_
    have o : Ok inp s := hok (ne_of_not_beq_or h2).1
    -- an escaped quote is skipped
    have o1 : Ok inp (if (c == some '\\' && s.peek == '\'') = true then (s.next).1 else s) := by
      split
      · rename_i hc
        exact o.next (ne_nl_of (f := fun p => c == some '\\' && p == '\'') (by simp) hc)
      · exact o
    exact ih o1.toOk0.next o1.next'

theorem post_lexQuotedString {s : Scan} (h : Ok inp s) : Post inp (lexQuotedString s) := by
  unfold lexQuotedString
  exact (post_quotedLoop (h.errOK _) h.toOk0.next h.next').bind fun _ h2 => post_emit h2 _

theorem post_lexNumber {s : Scan} (h : Ok inp s) (hlt : s.start < s.pos) : Post inp (lexNumber s) := by
  unfold lexNumber
  simp only []
  -- the character given back is the pending (newline-free) one: `next` takes it again
  have hpk : s.backup.peek ≠ '\n' := fun hx => by
    have hl : s.backup.pos < s.backup.input.size := peek_ne_nul_lt _ (by rw [hx]; decide)
    exact h.nonl (s.pos - 1) (by omega) (by omega) (by rw [← h.input, ← hx]; exact peek_eq s.backup hl)
  have o := (h.backup hlt).next hpk
  generalize (s.backup.next).1 = t at o ⊢
  generalize (s.backup.next).2 = ch
  refine .ite (fun _ => post_emit o _) fun hpk2 => ?_
  have hp : t.peek ≠ '\n' := (ne_of_not_beq_or hpk2).1
  have o1 := o.next hp
  refine .ite (fun _ => .ite (fun _ => post_runEmit o1 _ high_bin.nl _) fun _ => .ite (fun _ => post_runEmit o1 _ high_oct.nl _)
      fun _ => .ite (fun _ => post_runEmit o1 _ high_hex.nl _) fun _ => .pure ((o1.backup ?_).emit _))
    fun _ => post_runEmit o _ high_digit.nl _
  have hl : t.pos < t.input.size := peek_ne_nul_lt t (ne_of_not_beq_or hpk2).2
  rw [(step_next t hp).start, next_pos_lt t hl]; have := o.sp; omega

theorem post_lexKeyword (cfg : ScanCfg) {s : Scan} (h : Ok inp s) : Post inp (lexKeyword cfg s) := by
  unfold lexKeyword
  exact (post_acceptRun h.toOk0.ignore _ false high_kw.nl).bind fun _ h1 => .ite (fun _ => post_emit h1 _) fun _ => h1.err _

theorem post_lexOpcodeIndex {s : Scan} (h : Ok inp s) : Post inp (lexOpcodeIndex s) := by
  unfold lexOpcodeIndex
  exact (post_ignoreRun h.toOk0.ignore _ (by decide)).bind fun _ h1 =>
    .ite (fun _ => post_emit (h1.accept _ (by decide)) _) fun _ => h1.err _

theorem post_optIndex {s : Scan} (h : Ok inp s) : Post inp (optIndex s) :=
  .ite (fun _ => post_lexOpcodeIndex (h.accept _ (by decide))) fun _ => .pure h

theorem Ok.bracket {s : Scan} (h : Ok inp s) : ∀ (l : List (Char × TokTy)), (∀ e ∈ l, e.1 ≠ '\n') → Ok inp (bracket l s)
  | [], _ => h
  | (c, ty) :: l, hl => by
    unfold ScanB.bracket
    split
    · rename_i hc
      exact (h.next fun hx => hl (c, ty) List.mem_cons_self ((eq_of_beq hc).symm.trans hx)).emit ty
    · exact h.bracket l fun e hm => hl e (List.mem_cons_of_mem _ hm)

theorem post_erow (e : ERow) {s : Scan} (h : Ok inp s) (ha : (e.acc.run s).2 = true) : Post inp (e.act (e.acc.run s).1) := by
  have h1 := h.acc e.acc e.acc_wf
  cases e with
  | tok α ty hwf => exact post_emit h1 ty
  | ident => exact post_lexIdentifier h1
  | number => exact post_lexNumber h1 (accept_start_lt s digitChars high_digit.nul h.sp ha)

theorem post_lexExpressionLoop : ∀ {n : Nat} {s : Scan}, Ok inp s → Post inp (lexExpressionLoop n s) := by
  intro n
  induction n with
  | zero =>
    intro s h
    unfold lexExpressionLoop
    exact .ite (fun _ => .err trivial) fun _ => .ok h
  | succ n ih =>
    intro s h
    rw [ScanS.lexExpressionLoop_step]
    exact .ite (fun _ => (post_ignoreRun h _ (by decide)).bind fun t ht =>
      dispatch_ind t exprRows (fun e _ ha => (post_erow e ht ha).bind fun _ => ih) (.pure ht)) fun _ => .ok h

theorem post_lexExpression {s : Scan} (h : Ok inp s) : Post inp (lexExpression s) := by
  unfold lexExpression
  exact post_lexExpressionLoop h

theorem post_lexOperand {s : Scan} (h : Ok inp s) : Post inp (lexOperand s) := by
  rw [lexOperand_eq]
  exact (post_ignoreRun (h.bracket _ (by decide)) _ (by decide)).bind fun _ h1 => (post_lexExpression h1).bind fun _ h2 =>
    (post_ignoreRun h2 _ (by decide)).bind fun _ h3 => (post_optIndex h3).bind fun _ h4 =>
    (post_ignoreRun (h4.bracket _ (by decide)) _ (by decide)).bind fun _ => post_optIndex

theorem post_lexOpcodeSize {s : Scan} (h : Ok inp s) : Post inp (lexOpcodeSize s) := by
  unfold lexOpcodeSize
  simp only []
  exact .ite (fun _ => (post_ignoreRun ((h.toOk0.ignore.accept _ (by decide)).emit _) _ (by decide)).bind fun _ => post_lexOperand)
    fun _ => h.toOk0.ignore.err _

theorem post_opTail {s : Scan} (h : Ok inp s) : Post inp (opTail s) :=
  (Post.ite (fun _ => post_lexOpcodeSize (h.accept _ (by decide))) fun _ => .pure h).bind fun _ h1 =>
    (post_ignoreRun h1 _ (by decide)).bind fun _ => post_lexOperand

theorem step_nakedAhead {s s3 : Scan} (h : nakedAhead s = .ok s3) : Step s s3 :=
  nakedAhead_ind (fun u c n hc hu => hu.trans (step_accept u c n (acceptTest_nonl u c n hc))) (Step.refl s) h

theorem post_nakedAhead {s : Scan} (h : Ok inp s) : Post inp (nakedAhead s) :=
  (post_acceptRun h _ false (by decide)).bind fun _ h1 =>
    .ite (fun _ => post_acceptRun (h1.accept _ (by decide)) _ true (by decide)) fun _ => .pure (h1.accept _ (by decide))

theorem post_lexOpcode (cfg : ScanCfg) {s : Scan} (h : Ok inp s) : Post inp (lexOpcode cfg s) := by
  rw [lexOpcode_eq]
  refine .ite (fun _ => ?_) fun _ => post_opTail (h.emit _)
  have hn := post_nakedAhead h
  cases hr : nakedAhead s with
  | error e => rw [hr] at hn; cases hn; exact .err ‹_›
  | ok s3 =>
    have o := h.setPos (step_nakedAhead hr)
    rw [ok_bind]
    exact .ite (fun _ => post_emit o _) fun _ => post_opTail (o.emit _)

/-- the rest of a `;` comment (the loop may run over a newline, so only `Ok0` is kept inside it) -/
theorem post_lexLineComment : ∀ {n : Nat} {s : Scan}, Ok0 inp s → Post inp (lexLineComment n s) := by
  intro n
  induction n with
  | zero => intro s _; exact .err trivial
  | succ n ih =>
    intro s h
    unfold lexLineComment lineCommentLoop
    rw [ite_bind]
    exact .ite (fun _ => .pure (h.next.emit _ (.inl rfl))) fun _ => ih h.next

/-- the rest of a `/*` comment: end of input raises the error `x` built when the comment was opened -/
theorem post_blockComment {x : Err} (hx : ErrOK inp x) : ∀ {n : Nat} {s : Scan}, Ok0 inp s →
    Post inp (blockCommentLoop x n s >>= fun s2 => pure (s2.emit .COMMENT)) := by
  intro n
  induction n with
  | zero => intro s _; exact .err trivial
  | succ n ih =>
    intro s h
    unfold blockCommentLoop
    rw [ite_bind, ite_bind]
    exact .ite (fun _ => .pure ((h.step (step_acceptPrefix s _ (by decide))).emit _ (.inl rfl))) fun _ =>
      .ite (fun _ => .err hx) fun _ => ih h.next

theorem post_row (row : Row) (hcfg : ∀ cfg, row = .word cfg → CfgOK cfg) {s : Scan} (h : Ok inp s)
    (ha : (row.acc.run s).2 = true) : Post inp (row.act s (row.acc.run s).1) := by
  have h1 := h.acc row.acc row.acc_wf
  cases row with
  | expr e => exact post_erow e h ha
  | tok2 c c2 t2 t1 _ hwf2 =>
    exact .pure (by unfold emit2; split
                    · exact (h1.acc (.chars c2) hwf2).emit _
                    · exact h1.emit _)
  | keyword cfg => exact post_lexKeyword cfg h1
  | quoted => exact post_lexQuotedString h1
  | lineComment => exact post_lexLineComment h1.toOk0
  | blockComment => exact post_blockComment (h1.errOK _) h1.toOk0
  | word cfg =>
    have ob := h1.backup (accept_start_lt s letterChars high_letter.nul h.sp ha)
    show Post inp (lexWord cfg _)
    unfold lexWord
    exact .ite (fun _ => post_lexOpcode cfg (ob.step (step_acceptOpcode cfg (hcfg cfg rfl) _ ob.sp))) fun _ =>
      post_lexIdentifier ob

theorem post_lexInitial (cfg : ScanCfg) (hcfg : CfgOK cfg) (s : Scan) (h0 : Ok0 inp s) : Post inp (lexInitial cfg s) := by
  obtain ⟨_, hr⟩ := ignoreRun_returns s [' ', '\t', '\n'] he_ws
  obtain ⟨s', hs1, rfl⟩ := ignoreRun_ok hr
  rw [lexInitial_eq, hr, ok_bind]
  -- the blanks that are skipped may be newlines: only `Ok0` survives, `ignore` then gives `Ok`
  obtain ⟨a0, hstop⟩ := acceptRun_ind (P := Ok0 inp) (fun u hu _ => hu.accept _ _) h0 hs1
  have ht : Ok inp s'.ignore := a0.ignore
  have hpk : s'.ignore.peek ≠ '\n' := fun hx => by
    rw [accept_snd, show s'.peek = '\n' from hx] at hstop
    exact absurd hstop (by decide)
  generalize s'.ignore = t at ht hpk ⊢
  refine dispatch_ind t (initRows cfg)
    (fun row hm ha => post_row row (fun c hc => by subst hc; rw [initRows_word hm]; exact hcfg) ht ha) ?_
  rw [initDefault_eq]
  exact .ite (fun _ => (ht.next hpk).err _) fun _ => .ok ht

theorem post_scanLoop (cfg : ScanCfg) (hcfg : CfgOK cfg) : ∀ (n : Nat) (s : Scan), Ok inp s →
    Post inp (scanLoop cfg .initial n s) :=
  scanLoop_rule cfg .initial (I := fun _ => Ok inp) (Q := Post inp) (fun _ _ _ => .err trivial) (fun _ _ h => .ok h)
    (fun _ s e h hr => by
      have hp := post_lexInitial cfg hcfg s h.toOk0
      rw [show lexInitial cfg s = .error e from hr] at hp
      cases hp; exact .err ‹_›)
    (fun _ s s1 h hlt hr => by
      have hp := post_lexInitial cfg hcfg s h.toOk0
      rw [show lexInitial cfg s = .ok s1 from hr] at hp
      split
      · -- in the initial state the no-progress guard cannot fire while input remains (`lexInitial_lt`)
        rename_i hnp
        rw [Bool.and_eq_true, beq_iff_eq] at hnp
        have := (lexInitial_lt hr hlt).2
        omega
      · exact hp.state)

/-- **every token and every lexical error of a whole scan carries a true position** -/
theorem scan_positions (cfg : ScanCfg) (hcfg : CfgOK cfg) (file : Nat) (input : List Char) :
    ((scan cfg .initial file input).error = none → ∀ t ∈ (scan cfg .initial file input).toks.toList, TokOK input.toArray t) ∧
    (∀ msg l c, (scan cfg .initial file input).error = some (.scan msg l c) →
      ∃ i, l = ((truePos input.toArray i).1 : Int) ∧ c = (truePos input.toArray i).2) := by
  have h0 : Ok input.toArray (ScanS.initState file input) :=
    ⟨⟨rfl, init_inv _ _, fun _ ht => nomatch ht⟩, Nat.le_refl _, NoNl.empty _ _⟩
  have hl := post_scanLoop cfg hcfg (input.length + 1) _ h0
  rw [ScanS.scan_eq_finish]
  cases hr : scanLoop cfg .initial (input.length + 1) (ScanS.initState file input) with
  | ok s =>
    rw [hr] at hl
    refine ⟨fun _ t ht => ?_, fun msg l c h => (by rw [(ScanS.finish_ok s).2] at h; cases h)⟩
    rw [(ScanS.finish_ok s).1] at ht
    exact (hl.state.emit .EOF).toks t ht
  | error er =>
    rw [hr] at hl
    have he : ErrOK input.toArray er.1 := by cases hl; assumption
    refine ⟨fun hn => (by rw [(ScanS.finish_error er.1 er.2).2] at hn; cases hn), fun msg l c hx => ?_⟩
    rw [(ScanS.finish_error er.1 er.2).2, Option.some.injEq] at hx
    rw [hx] at he
    exact he

end A816.ScanP
