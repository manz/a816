import A816.Proofs.ScanPos
import A816.Proofs.ScanLocal
/-!
# Scanning a text that ends with a newline does not depend on what follows it (helper lemmas for C16)

`ext r a` is the scanner state `a` over the text extended by `r`.  For a text `p` that ends with a newline (`Ends p`),
every scanner primitive and every state function (walked over the pieces of `ScanProg`) started at or before that final
newline (`X`) and returning normally over `p` returns the extension of the same state over `p ++ r`: no decision is taken
on a character beyond the newline.  (Look-ahead does read beyond it — `peek(1)`, `peek(3)`, two-character prefixes — but
only when the newline is the character at `pos` or, for `accept_opcode`, one of the three characters taken for a mnemonic,
and then the newline already decides the test.)
-/
namespace A816.ScanX
open A816 Scan ScanB ScanT ScanP ScanS

seal lexNumber Scan.accept

/-- the same scanner state over the text extended by `r` -/
def ext (r : List Char) (a : Scan) : Scan := { a with input := (a.input.toList ++ r).toArray }

/-- `p` ends with a newline -/
def Ends (p : Array Char) : Prop := 0 < p.size ∧ p[p.size - 1]? = some '\n'

variable {p : Array Char} {r : List Char}

@[simp] theorem ext_pos (a : Scan) : (ext r a).pos = a.pos := rfl
@[simp] theorem ext_start (a : Scan) : (ext r a).start = a.start := rfl
@[simp] theorem ext_toks (a : Scan) : (ext r a).toks = a.toks := rfl
@[simp] theorem ext_toList (a : Scan) : (ext r a).input.toList = a.input.toList ++ r := by simp [ext]
@[simp] theorem ext_size (a : Scan) : (ext r a).input.size = a.input.size + r.length := by simp [ext]

theorem ext_getElem? (a : Scan) (i : Nat) (h : i < a.input.size) : (ext r a).input[i]? = a.input[i]? := by
  rw [← Array.getElem?_toList, ← Array.getElem?_toList, ext_toList, List.getElem?_append_left (by simpa using h)]

theorem ext_peek (a : Scan) (k : Nat) (h : a.pos + k < a.input.size) : (ext r a).peek k = a.peek k := by
  unfold Scan.peek
  rw [ext_pos, Array.getD_eq_getD_getElem?, Array.getD_eq_getD_getElem?, ext_getElem? a _ h]

theorem ext_slice (a : Scan) (b e : Nat) (h : e ≤ a.input.size) : (ext r a).slice b e = a.slice b e := by
  unfold Scan.slice
  rw [ext_toList]
  congr 1
  by_cases hb : b ≤ a.input.toList.length
  · rw [List.drop_append_of_le_length hb, List.take_append_of_le_length]
    rw [List.length_drop]; simp only [Array.length_toList]; omega
  · have : e - b = 0 := by simp only [Array.length_toList] at hb; omega
    rw [this, List.take_zero, List.take_zero]

theorem ext_handleLine (a : Scan) (h : a.pos ≤ a.input.size) : (ext r a).handleLine = ext r a.handleLine := by
  have hs := ext_slice (r := r) a a.lineOffset a.pos h
  obtain ⟨inp, pos, st, lo, cl, lines, toks, file⟩ := a
  simp only [Scan.handleLine, ext] at hs ⊢
  split
  · rename_i hc
    simp only [Scan.slice] at hs ⊢
    simp only [hc, ↓reduceIte, hs]
  · rename_i hc
    simp only [hc, ↓reduceIte]

theorem next_lt (a : Scan) (h : a.pos < a.input.size) :
    a.next = ({ (if a.input[a.pos] = '\n' then a.handleLine else a) with pos := (if a.input[a.pos] = '\n' then a.handleLine else a).pos + 1 }, some a.input[a.pos]) := by
  unfold Scan.next
  rw [dif_pos h]

theorem ext_next (a : Scan) (h : a.pos < a.input.size) :
    ((ext r a).next).1 = ext r (a.next).1 ∧ ((ext r a).next).2 = (a.next).2 := by
  have hb : (ext r a).pos < (ext r a).input.size := by rw [ext_size, ext_pos]; omega
  have hc : (ext r a).input[(ext r a).pos]'hb = a.input[a.pos] := by
    have := ext_getElem? (r := r) a a.pos h
    rw [Array.getElem?_eq_getElem h, Array.getElem?_eq_getElem (show a.pos < _ from hb)] at this
    exact Option.some.inj this
  rw [next_lt _ hb, next_lt _ h, hc]
  split
  · rw [ext_handleLine a (by omega)]; exact ⟨rfl, rfl⟩
  · exact ⟨rfl, rfl⟩

/-- a prefix test whose window lies inside the text of `a` -/
theorem ext_acceptPrefix (a : Scan) (pre : List Char) (h : a.pos + pre.length ≤ a.input.size) :
    (ext r a).acceptPrefix pre = (ext r (a.acceptPrefix pre).1, (a.acceptPrefix pre).2) := by
  unfold Scan.acceptPrefix
  simp only [ext_toList, ext_pos, ext_size]
  rw [List.drop_append_of_le_length (by rw [Array.length_toList]; omega),
    List.take_append_of_le_length (by simp only [List.length_drop, Array.length_toList]; omega)]
  by_cases hc : (a.input.toList.drop a.pos).take pre.length = pre
  · rw [if_pos ⟨hc, by omega⟩, if_pos ⟨hc, h⟩]; rfl
  · rw [if_neg fun x => hc x.1, if_neg fun x => hc x.1]

theorem ext_acceptOpcode (cfg : ScanCfg) (a : Scan) (h : a.pos + 3 < a.input.size) :
    acceptOpcode cfg (ext r a) = (ext r (acceptOpcode cfg a).1, (acceptOpcode cfg a).2) := by
  unfold acceptOpcode
  simp only [ext_start, ext_pos, ext_slice a _ _ (Nat.le_of_lt h), ext_peek a 3 h]
  split <;> rfl

theorem ext_accept (a : Scan) (h : a.pos < a.input.size) (cands : List Char) (negate : Bool) :
    ((ext r a).accept cands negate).1 = ext r (a.accept cands negate).1 ∧
    ((ext r a).accept cands negate).2 = (a.accept cands negate).2 := by
  have hp : (ext r a).peek = a.peek := ext_peek a 0 (by omega)
  have ht : (ext r a).acceptTest cands negate = a.acceptTest cands negate := by
    unfold Scan.acceptTest; rw [hp]
  unfold Scan.accept
  rw [ht]
  by_cases hc : a.acceptTest cands negate = true
  · rw [if_pos hc, if_pos hc]; exact ⟨(ext_next a h).1, rfl⟩
  · rw [if_neg hc, if_neg hc]; exact ⟨rfl, rfl⟩

theorem ext_emit (a : Scan) (h : a.pos ≤ a.input.size) (ty : TokTy) : (ext r a).emit ty = ext r (a.emit ty) := by
  unfold Scan.emit Scan.tokenText
  have := ext_slice (r := r) a a.start a.pos h
  show ({ ext r a with toks := (ext r a).toks.push ⟨ty, (ext r a).slice a.start a.pos, _, _, _, true⟩, start := a.pos } : Scan) = _
  rw [this]
  rfl

theorem ext_ignore (a : Scan) : (ext r a).ignore = ext r a.ignore := rfl
theorem ext_backup (a : Scan) : (ext r a).backup = ext r a.backup := rfl
theorem ext_err (a : Scan) (msg : String) : (ext r a).err msg = a.err msg := rfl

theorem acceptRunAux_le (cands : List Char) (negate : Bool) (k : Nat) (a u : Scan)
    (h : Scan.acceptRunAux cands negate k a = some u) : a.pos ≤ u.pos ∧ u.input = a.input :=
  (acceptRunAux_ind (P := fun v => a.pos ≤ v.pos ∧ v.input = a.input) cands negate
    (fun v hv _ => ⟨Nat.le_trans hv.1 (accept_step v cands negate).2.2, by rw [(accept_step v cands negate).1, hv.2]⟩)
    k a u ⟨Nat.le_refl _, rfl⟩ h).1

/-- a run over `a` that ends inside the text of `a` is, with at least as much fuel, the same run over the extended text -/
theorem ext_acceptRunAux (cands : List Char) (negate : Bool) : ∀ (k : Nat) (a u : Scan),
    Scan.acceptRunAux cands negate k a = some u → u.pos < a.input.size → ∀ k', k ≤ k' →
    Scan.acceptRunAux cands negate k' (ext r a) = some (ext r u) := by
  intro k
  induction k with
  | zero =>
    intro a u h hu k' _
    unfold Scan.acceptRunAux at h
    split at h
    · cases h
    · rename_i hc
      cases h
      exact acceptRunAux_of_not _ _ _ _ (by rw [(ext_accept a hu cands negate).2]; exact Bool.eq_false_iff.mpr hc)
  | succ k ih =>
    intro a u h hu k' hk
    obtain ⟨k'', rfl⟩ : ∃ j, k' = j + 1 := ⟨k' - 1, by omega⟩
    unfold Scan.acceptRunAux at h ⊢
    simp only at h ⊢
    split at h
    · rename_i hc
      have hst := accept_step a cands negate
      have ha : a.pos < a.input.size := by
        have := (acceptRunAux_le cands negate _ _ _ h).1; have := hst.2.2; omega
      rw [(ext_accept a ha cands negate).2, if_pos hc, (ext_accept a ha cands negate).1]
      exact ih _ _ h (by rw [hst.1]; exact hu) k'' (by omega)
    · rename_i hc
      cases h
      rw [(ext_accept a hu cands negate).2, if_neg hc]

theorem ext_acceptRun (a u : Scan) (cands : List Char) (negate : Bool) (h : a.acceptRun cands negate = .ok u)
    (hu : u.pos < a.input.size) : (ext r a).acceptRun cands negate = .ok (ext r u) := by
  unfold Scan.acceptRun at h ⊢
  split at h
  · rename_i u' hx
    cases h
    rw [ext_acceptRunAux cands negate _ a u hx hu _ (by simp only [ext_size, ext_pos]; omega)]
  · cases h

/-- `b` is `a` over the extended text, and `a` is a state over `p` at or before the final newline of `p` -/
structure X (p : Array Char) (r : List Char) (a b : Scan) : Prop where
  eb : b = ext r a
  input : a.input = p
  lt : a.pos < p.size

/-- the same, but `a` may stand right after the final newline -/
structure XL (p : Array Char) (r : List Char) (a b : Scan) : Prop where
  eb : b = ext r a
  input : a.input = p
  le : a.pos ≤ p.size

theorem X.toL {a b : Scan} (h : X p r a b) : XL p r a b := ⟨h.eb, h.input, Nat.le_of_lt h.lt⟩

/-- whenever the run over `p` returns, the run over the extended text returns the extension -/
def XR (p : Array Char) (r : List Char) (ra rb : SR) : Prop := ∀ a', ra = .ok a' → ∃ b', rb = .ok b' ∧ X p r a' b'
def XRL (p : Array Char) (r : List Char) (ra rb : SR) : Prop := ∀ a', ra = .ok a' → ∃ b', rb = .ok b' ∧ XL p r a' b'

theorem XR.toL {ra rb : SR} (h : XR p r ra rb) : XRL p r ra rb := by
  intro a' ha; obtain ⟨b', hb, hx⟩ := h a' ha; exact ⟨b', hb, hx.toL⟩

theorem XR.pure {a b : Scan} (h : X p r a b) : XR p r (pure a) (pure b) := by
  intro a' ha; cases ha; exact ⟨b, rfl, h⟩
theorem XRL.pure {a b : Scan} (h : XL p r a b) : XRL p r (pure a) (pure b) := by
  intro a' ha; cases ha; exact ⟨b, rfl, h⟩

theorem XR.bind {ra rb : SR} {f g : Scan → SR} (h : XR p r ra rb)
    (hf : ∀ a b, X p r a b → XR p r (f a) (g b)) : XR p r (ra >>= f) (rb >>= g) := by
  intro a' ha
  cases ra with
  | error e => cases ha
  | ok a1 =>
    obtain ⟨b1, hb1, hx⟩ := h a1 rfl
    rw [hb1]
    exact hf a1 b1 hx a' ha

theorem XR.bindL {ra rb : SR} {f g : Scan → SR} (h : XR p r ra rb)
    (hf : ∀ a b, X p r a b → XRL p r (f a) (g b)) : XRL p r (ra >>= f) (rb >>= g) := by
  intro a' ha
  cases ra with
  | error e => cases ha
  | ok a1 =>
    obtain ⟨b1, hb1, hx⟩ := h a1 rfl
    rw [hb1]
    exact hf a1 b1 hx a' ha

theorem XR.err {e : Err × Scan} {rb : SR} : XR p r (.error e) rb := by intro a' ha; cases ha
theorem XRL.err {e : Err × Scan} {rb : SR} : XRL p r (.error e) rb := by intro a' ha; cases ha

/-- a move that consumes no newline stays at or before the final newline -/
theorem X.step {a b a' : Scan} (h : X p r a b) (he : Ends p) (st : Step a a') : X p r a' (ext r a') := by
  refine ⟨rfl, by rw [st.input, h.input], ?_⟩
  by_cases hlt : a'.pos < p.size
  · exact hlt
  · exfalso
    have hn := st.nonl (p.size - 1) (by have := h.lt; omega) (by have := he.1; omega)
    rw [h.input] at hn
    exact hn he.2

theorem X.sz {a b : Scan} (h : X p r a b) : a.pos < a.input.size := by rw [h.input]; exact h.lt

theorem X.last {a b : Scan} (h : X p r a b) (he : Ends p) : b.input[p.size - 1]? = some '\n' := by
  rw [h.eb, ext_getElem? a _ (by rw [h.input]; have := he.1; omega), h.input]; exact he.2

theorem X.peek {a b : Scan} (h : X p r a b) : b.peek = a.peek := by
  rw [h.eb]; exact ext_peek a 0 (by have := h.sz; omega)

theorem X.peekk {a b : Scan} (h : X p r a b) (k : Nat) (hk : a.pos + k < p.size) : b.peek k = a.peek k := by
  rw [h.eb]; exact ext_peek a k (by rw [h.input]; exact hk)

theorem X.peek_last {a b : Scan} (h : X p r a b) (he : Ends p) (hl : ¬ a.pos + 1 < p.size) : a.peek = '\n' := by
  have hpos : a.pos = p.size - 1 := by have := h.lt; omega
  have := peek_eq a h.sz
  rw [h.input, hpos, he.2] at this
  exact (Option.some.inj this).symm

theorem X.next {a b : Scan} (h : X p r a b) (he : Ends p) (hp : a.peek ≠ '\n') :
    X p r (a.next).1 (b.next).1 ∧ (b.next).2 = (a.next).2 := by
  have e := ext_next (r := r) a h.sz
  rw [h.eb, e.1, e.2]
  exact ⟨h.step he (step_next a hp), rfl⟩

/-- `next()`: the new state may stand right after the final newline — unless the character it returns is no newline -/
theorem X.next' {a b : Scan} (h : X p r a b) (he : Ends p) : XL p r (a.next).1 (b.next).1 ∧ (b.next).2 = (a.next).2 ∧
    ((a.next).2 ≠ some '\n' → X p r (a.next).1 (b.next).1) := by
  have e := ext_next (r := r) a h.sz
  rw [h.eb, e.1, e.2]
  refine ⟨⟨rfl, by rw [next_input, h.input], by rw [next_pos_lt a h.sz]; exact h.lt⟩, rfl, fun hc => ?_⟩
  exact h.step he (step_next a fun hy => hc (by rw [next_snd a h.sz, hy]))

theorem X.accept {a b : Scan} (h : X p r a b) (he : Ends p) (cands : List Char) (negate : Bool)
    (hc : if negate then cands.contains '\n' = true else cands.contains '\n' = false) :
    X p r (a.accept cands negate).1 (b.accept cands negate).1 ∧ (b.accept cands negate).2 = (a.accept cands negate).2 := by
  have e := ext_accept (r := r) a h.sz cands negate
  rw [h.eb, e.1, e.2]
  exact ⟨h.step he (step_accept a cands negate (acceptTest_nonl a cands negate hc)), rfl⟩

theorem X.acceptRun {a b : Scan} (h : X p r a b) (he : Ends p) (cands : List Char) (negate : Bool)
    (hc : if negate then cands.contains '\n' = true else cands.contains '\n' = false) :
    XR p r (a.acceptRun cands negate) (b.acceptRun cands negate) := by
  intro u hu
  have hx := h.step he (step_acceptRun hc hu)
  refine ⟨ext r u, ?_, hx⟩
  rw [h.eb]
  exact ext_acceptRun a u cands negate hu (by rw [h.input]; exact hx.lt)

theorem X.ignore {a b : Scan} (h : X p r a b) : X p r a.ignore b.ignore := ⟨by rw [h.eb]; rfl, h.input, h.lt⟩

theorem X.ignoreRun {a b : Scan} (h : X p r a b) (he : Ends p) (cands : List Char) (hc : cands.contains '\n' = false) :
    XR p r (a.ignoreRun cands) (b.ignoreRun cands) := by
  rw [ignoreRun_eq, ignoreRun_eq]
  exact (h.acceptRun he cands false hc).bind fun _ _ h1 => .pure h1.ignore

theorem XL.emit {a b : Scan} (h : XL p r a b) (ty : TokTy) : XL p r (a.emit ty) (b.emit ty) :=
  ⟨by rw [h.eb]; exact ext_emit a (by rw [h.input]; exact h.le) ty, h.input, h.le⟩

theorem X.emit {a b : Scan} (h : X p r a b) (ty : TokTy) : X p r (a.emit ty) (b.emit ty) :=
  ⟨(h.toL.emit ty).eb, h.input, h.lt⟩

theorem X.backup {a b : Scan} (h : X p r a b) : X p r a.backup b.backup :=
  ⟨by rw [h.eb]; rfl, h.input, by show a.pos - 1 < p.size; have := h.lt; omega⟩

theorem X.setPos {a b : Scan} (h : X p r a b) (q : Nat) (hq : q < p.size) : X p r { a with pos := q } { b with pos := q } :=
  ⟨by rw [h.eb]; rfl, h.input, hq⟩

theorem X.err {a b : Scan} (h : X p r a b) (msg : String) : b.err msg = a.err msg := by rw [h.eb]; rfl

theorem X.slice {a b : Scan} (h : X p r a b) (s e : Nat) (he : e ≤ p.size) : b.slice s e = a.slice s e := by
  rw [h.eb]; exact ext_slice a s e (by rw [h.input]; exact he)

theorem X.tokenText {a b : Scan} (h : X p r a b) : b.tokenText = a.tokenText := by
  unfold Scan.tokenText
  have : b.start = a.start ∧ b.pos = a.pos := by rw [h.eb]; exact ⟨rfl, rfl⟩
  rw [this.1, this.2]
  exact h.slice _ _ (Nat.le_of_lt h.lt)

theorem X.acceptPrefix {a b : Scan} (h : X p r a b) (he : Ends p) (pre : List Char) (hp : pre.contains '\n' = false) :
    X p r (a.acceptPrefix pre).1 (b.acceptPrefix pre).1 ∧ (b.acceptPrefix pre).2 = (a.acceptPrefix pre).2 := by
  by_cases hfit : a.pos + pre.length ≤ a.input.size
  · rw [h.eb, ext_acceptPrefix a pre hfit]
    exact ⟨h.step he (step_acceptPrefix a pre hp), rfl⟩
  · -- the prefix would reach over the final newline, which it does not hold: neither side accepts
    have hlt := h.lt
    have hsz : a.input.size = p.size := by rw [h.input]
    have ha : a.acceptPrefix pre = (a, false) := by unfold Scan.acceptPrefix; rw [if_neg fun hc => hfit hc.2]
    have hb : b.acceptPrefix pre = (b, false) := by
      unfold Scan.acceptPrefix
      rw [if_neg fun hc => ?_]
      have hbp : b.pos = a.pos := by rw [h.eb]; rfl
      refine noNl_of_take (a := b.input) (p := b.pos) (n := pre.length) (fun hm => ?_) (p.size - 1) (by omega) (by omega) (h.last he)
      rw [hc.1] at hm
      rw [List.contains_iff_mem.mpr hm] at hp
      cases hp
    rw [ha, hb]
    exact ⟨h, rfl⟩

theorem X.cond1 {a b : Scan} (h : X p r a b) (he : Ends p) (c : Char) (hc : c ≠ '\n') (f : Char → Bool) :
    (b.peek == c && f (b.peek 1)) = (a.peek == c && f (a.peek 1)) := by
  rw [h.peek]
  by_cases hl : a.pos + 1 < p.size
  · rw [h.peekk 1 hl]
  · rw [h.peek_last he hl, beq_false_of_ne hc.symm, Bool.false_and, Bool.false_and]

theorem accept_backup_peek (s : Scan) (cands : List Char) (h0 : cands.contains '\x00' = false)
    (ha : (s.accept cands).2 = true) : (s.accept cands).1.backup.peek = s.peek ∧ cands.contains s.peek = true := by
  obtain ⟨_, hp, hi⟩ := accept_backup s cands h0 ha
  refine ⟨?_, by rw [← accept_snd]; exact ha⟩
  unfold Scan.peek
  rw [hp, hi]

theorem letter_ne_nl (c : Char) (h : letterChars.contains c = true) : c ≠ '\n' := high_letter.ne_nl h

theorem no_mnemonic_over_nl (cfg : ScanCfg) (hcfg : CfgOK cfg) (s : Scan) (k : Nat) (hk1 : s.start ≤ k)
    (hk2 : k < s.pos + 3) (hget : s.input.toList[k]? = some '\n') :
    cfg.mnemonics.contains (asciiLower (s.slice s.start (s.pos + 3))) = false := by
  cases hc : cfg.mnemonics.contains (asciiLower (s.slice s.start (s.pos + 3))) with
  | false => rfl
  | true => exact absurd (by rw [← Array.getElem?_toList]; exact hget) (mnemonic_noNl cfg hcfg s _ hc k hk1 hk2)

theorem x_acceptOpcode (cfg : ScanCfg) (hcfg : CfgOK cfg) {a b : Scan} (h : X p r a b) (he : Ends p)
    (hsp : a.start ≤ a.pos) :
    X p r (acceptOpcode cfg a).1 (acceptOpcode cfg b).1 ∧ (acceptOpcode cfg b).2 = (acceptOpcode cfg a).2 := by
  by_cases hl : a.pos + 3 < p.size
  · rw [h.eb, ext_acceptOpcode cfg a (by rw [h.input]; exact hl)]
    exact ⟨h.step he (step_acceptOpcode cfg hcfg a hsp), rfl⟩
  · -- the three characters would reach over the final newline, and no mnemonic holds one: neither side accepts
    have hlt := h.lt
    have hbs : b.start = a.start ∧ b.pos = a.pos := by rw [h.eb]; exact ⟨rfl, rfl⟩
    have rej : ∀ (s : Scan), s.start ≤ p.size - 1 → p.size - 1 < s.pos + 3 → s.input[p.size - 1]? = some '\n' →
        acceptOpcode cfg s = (s, false) := fun s h1 h2 h3 => by
      unfold acceptOpcode
      simp only []
      rw [no_mnemonic_over_nl cfg hcfg s (p.size - 1) h1 h2 (by rw [Array.getElem?_toList]; exact h3), Bool.false_and]
      rfl
    rw [rej a (by omega) (by omega) (by rw [h.input]; exact he.2),
      rej b (by rw [hbs.1]; omega) (by rw [hbs.2]; omega) (h.last he)]
    exact ⟨h, rfl⟩

theorem XR.ok {a b : Scan} (h : X p r a b) : XR p r (.ok a) (.ok b) := XR.pure h

theorem XR.ite {b1 b2 : Bool} {x1 y1 x2 y2 : SR} (hb : b2 = b1) (hx : b1 = true → XR p r x1 x2)
    (hy : ¬ b1 = true → XR p r y1 y2) : XR p r (if b1 = true then x1 else y1) (if b2 = true then x2 else y2) := by
  subst hb
  split
  · exact hx ‹_›
  · exact hy ‹_›

theorem XRL.ite {b1 b2 : Bool} {x1 y1 x2 y2 : SR} (hb : b2 = b1) (hx : b1 = true → XRL p r x1 x2)
    (hy : ¬ b1 = true → XRL p r y1 y2) : XRL p r (if b1 = true then x1 else y1) (if b2 = true then x2 else y2) := by
  subst hb
  split
  · exact hx ‹_›
  · exact hy ‹_›

theorem X.acc {a b : Scan} (h : X p r a b) (he : Ends p) (α : Acc) (hwf : α.wf = true) :
    X p r (α.run a).1 (α.run b).1 ∧ (α.run b).2 = (α.run a).2 := by
  cases α with
  | chars c => exact h.accept he c false (Acc.wf_chars hwf).2
  | pre q => exact h.acceptPrefix he q (Acc.wf_pre hwf).2

theorem x_emit {a b : Scan} (h : X p r a b) (ty : TokTy) : XR p r (pure (a.emit ty)) (pure (b.emit ty)) := .pure (h.emit ty)

theorem x_runEmit {a b : Scan} (h : X p r a b) (he : Ends p) (c : List Char) (hc : c.contains '\n' = false) (ty : TokTy) :
    XR p r (a.acceptRun c >>= fun s => pure (s.emit ty)) (b.acceptRun c >>= fun s => pure (s.emit ty)) :=
  (h.acceptRun he c false (by simpa using hc)).bind fun _ _ h2 => x_emit h2 ty

theorem x_identTail {a b : Scan} (h : X p r a b) (he : Ends p) : XR p r (identTail a) (identTail b) :=
  .ite (h.cond1 he ':' (by decide) (fun c => c != '='))
    (fun hc => .pure ((h.emit .LABEL).next he (ne_nl_of (f := fun c => c == ':' && a.peek 1 != '=') rfl hc)).1.ignore) fun _ =>
  .ite (by rw [h.peek])
    (fun hd => x_runEmit (h.next he (ne_nl_of (f := (· == '.')) rfl hd)).1 he _ high_ident.nl _) fun _ => x_emit h _

theorem x_lexIdentifier {a b : Scan} (h : X p r a b) (he : Ends p) : XR p r (lexIdentifier a) (lexIdentifier b) := by
  rw [lexIdentifier_eq, lexIdentifier_eq]
  exact (h.acceptRun he identChars false high_ident.nl).bind fun _ _ h1 => x_identTail h1 he

theorem x_lexNumber {a b : Scan} (h : X p r a b) (he : Ends p) (hpk : a.backup.peek ≠ '\n') :
    XR p r (lexNumber a) (lexNumber b) := by
  unfold lexNumber
  simp only []
  have h0 := h.backup.next he hpk
  rw [h0.2]
  refine .ite (by rw [h0.1.peek]) (fun _ => x_emit h0.1 _) fun hc => ?_
  have h1 := h0.1.next he (ne_of_not_beq_or hc).1
  rw [h1.2]
  exact .ite rfl (fun _ => .ite rfl (fun _ => x_runEmit h1.1 he _ high_bin.nl _) fun _ =>
      .ite rfl (fun _ => x_runEmit h1.1 he _ high_oct.nl _) fun _ =>
      .ite rfl (fun _ => x_runEmit h1.1 he _ high_hex.nl _) fun _ => .pure (h1.1.backup.emit _))
    fun _ => x_runEmit h0.1 he _ high_digit.nl _

theorem x_quotedLoop (he : Ends p) {e1 e2 : Err} : ∀ {n : Nat} {a b : Scan} {c : Option Char}, XL p r a b →
    (c ≠ some '\n' → c ≠ none → a.pos < p.size) → ∀ {n'}, n ≤ n' →
    XR p r (quotedLoop e1 n a c) (quotedLoop e2 n' b c) := by
  intro n
  induction n with
  | zero => intro a b c _ _ n' _; unfold quotedLoop; exact XR.err
  | succ n ih =>
    intro a b c hl hlt n' hn
    obtain ⟨n'', rfl⟩ : ∃ k, n' = k + 1 := ⟨n' - 1, by omega⟩
    unfold quotedLoop
    -- past the two tests `c` is neither a newline nor `None`, so `a` stands before the final newline
    have hx : ¬ (c == some '\n' || c == none) = true → X p r a b := fun h2 =>
      ⟨hl.eb, hl.input, hlt (ne_of_not_beq_or h2).1 (ne_of_not_beq_or h2).2⟩
    refine .ite rfl (fun h1 => .ok ⟨hl.eb, hl.input, hlt ?_ ?_⟩) fun _ => .ite rfl (fun _ => XR.err) fun h2 => ?_
    · intro hc; rw [hc] at h1; exact absurd h1 (by decide)
    · intro hc; rw [hc] at h1; exact absurd h1 (by decide)
    · have hs : X p r (if (c == some '\\' && a.peek == '\'') = true then (a.next).1 else a)
          (if (c == some '\\' && b.peek == '\'') = true then (b.next).1 else b) := by
        rw [(hx h2).peek]
        split
        · rename_i hq
          exact ((hx h2).next he (ne_nl_of (f := fun q => c == some '\\' && q == '\'') (by simp) hq)).1
        · exact hx h2
      obtain ⟨g1, g2, g3⟩ := hs.next' he
      rw [g2]
      exact ih g1 (fun hc _ => (g3 hc).lt) (by omega)

theorem x_lexQuotedString {a b : Scan} (h : X p r a b) (he : Ends p) : XR p r (lexQuotedString a) (lexQuotedString b) := by
  unfold lexQuotedString
  simp only []
  obtain ⟨g1, g2, g3⟩ := h.next' he
  rw [g2]
  exact (x_quotedLoop he g1 (fun hc _ => (g3 hc).lt)
    (by rw [h.eb]; simp only [ext_size, ext_pos]; omega)).bind fun _ _ h2 => x_emit h2 _

/-- the rest of a `;` comment: it may end right after the final newline -/
theorem x_lexLineComment (he : Ends p) : ∀ {n : Nat} {a b : Scan}, X p r a b → ∀ {n'}, n ≤ n' →
    XRL p r (lexLineComment n a) (lexLineComment n' b) := by
  intro n
  induction n with
  | zero => intro a b _ n' _; exact XRL.err
  | succ n ih =>
    intro a b h n' hn
    obtain ⟨n'', rfl⟩ : ∃ k, n' = k + 1 := ⟨n' - 1, by omega⟩
    obtain ⟨g1, g2, g3⟩ := h.next' he
    unfold lexLineComment lineCommentLoop
    rw [ite_bind, ite_bind, g2]
    exact .ite rfl (fun _ => .pure (g1.emit _)) fun hc =>
      ih (g3 fun hy => hc (by rw [hy]; rfl)) (by omega)

theorem x_blockCommentLoop (he : Ends p) {e1 e2 : Err} : ∀ {n : Nat} {a b : Scan}, XL p r a b → ∀ {n'}, n ≤ n' →
    XR p r (blockCommentLoop e1 n a) (blockCommentLoop e2 n' b) := by
  intro n
  induction n with
  | zero => intro a b _ n' _; unfold blockCommentLoop; exact XR.err
  | succ n ih =>
    intro a b h n' hn
    obtain ⟨n'', rfl⟩ : ∃ k, n' = k + 1 := ⟨n' - 1, by omega⟩
    unfold blockCommentLoop
    by_cases hlt : a.pos < p.size
    · have hx : X p r a b := ⟨h.eb, h.input, hlt⟩
      have hp := hx.acceptPrefix he ['*', '/'] (by decide)
      obtain ⟨g1, g2, _⟩ := hx.next' he
      rw [g2]
      exact .ite hp.2 (fun _ => .ok hp.1) fun _ => .ite rfl (fun _ => XR.err) fun _ => ih g1 (by omega)
    · -- right after the final newline: the run over `p` raises
      have hge : ¬ a.pos < a.input.size := by rw [h.input]; exact hlt
      have hp : (a.acceptPrefix ['*', '/']).2 = false := acc_eof (.pre _) rfl a hge
      rw [hp, if_neg Bool.false_ne_true, (next_pos_ge a hge).2, if_pos (show ((none : Option Char) == none) = true from rfl)]
      exact XR.err

theorem x_lexKeyword (cfg : ScanCfg) {a b : Scan} (h : X p r a b) (he : Ends p) :
    XR p r (lexKeyword cfg a) (lexKeyword cfg b) := by
  unfold lexKeyword
  refine (h.ignore.acceptRun he _ false high_kw.nl).bind fun a1 b1 h1 => ?_
  rw [h1.tokenText]
  exact .ite rfl (fun _ => x_emit h1 _) fun _ => XR.err

theorem x_lexOpcodeIndex {a b : Scan} (h : X p r a b) (he : Ends p) : XR p r (lexOpcodeIndex a) (lexOpcodeIndex b) := by
  unfold lexOpcodeIndex
  exact (h.ignore.ignoreRun he _ (by decide)).bind fun _ _ h1 =>
    .ite (h1.accept he _ false (by decide)).2 (fun _ => x_emit (h1.accept he _ false (by decide)).1 _) fun _ => XR.err

theorem x_optIndex {a b : Scan} (h : X p r a b) (he : Ends p) : XR p r (optIndex a) (optIndex b) :=
  .ite (h.accept he _ false (by decide)).2 (fun _ => x_lexOpcodeIndex (h.accept he _ false (by decide)).1 he) fun _ => .pure h

theorem X.bracket {a b : Scan} (h : X p r a b) (he : Ends p) : ∀ (l : List (Char × TokTy)), (∀ e ∈ l, e.1 ≠ '\n') →
    X p r (bracket l a) (bracket l b)
  | [], _ => h
  | (c, ty) :: l, hl => by
    unfold ScanB.bracket
    rw [h.peek]
    split
    · rename_i hc
      exact (h.next he fun hx => hl (c, ty) List.mem_cons_self ((eq_of_beq hc).symm.trans hx)).1.emit ty
    · exact h.bracket he l fun e hm => hl e (List.mem_cons_of_mem _ hm)

theorem X.emit2 {a b : Scan} (h : X p r a b) (he : Ends p) {c2 : List Char} (hwf : (Acc.chars c2).wf = true) (t2 t1 : TokTy) :
    X p r (emit2 c2 t2 t1 a) (emit2 c2 t2 t1 b) := by
  have h2 : X p r (a.accept c2).1 (b.accept c2).1 ∧ (b.accept c2).2 = (a.accept c2).2 := h.acc he _ hwf
  unfold ScanB.emit2
  rw [h2.2]
  split
  · exact h2.1.emit _
  · exact h.emit _

theorem x_erow (e : ERow) {a b : Scan} (h : X p r a b) (he : Ends p) (ha : (e.acc.run a).2 = true) :
    XR p r (e.act (e.acc.run a).1) (e.act (e.acc.run b).1) := by
  have h1 := (h.acc he e.acc e.acc_wf).1
  cases e with
  | tok α ty _ => exact x_emit h1 ty
  | ident => exact x_lexIdentifier h1 he
  | number =>
    obtain ⟨q1, q2⟩ := accept_backup_peek a digitChars high_digit.nul ha
    exact x_lexNumber h1 he (by show (a.accept digitChars).1.backup.peek ≠ _; rw [q1]; exact high_digit.ne_nl q2)

theorem x_lexExpressionLoop (he : Ends p) : ∀ {n : Nat} {a b : Scan}, X p r a b → ∀ {n'}, n ≤ n' →
    XR p r (lexExpressionLoop n a) (lexExpressionLoop n' b) := by
  intro n
  induction n with
  | zero =>
    intro a b h n' _
    unfold lexExpressionLoop
    rw [if_pos h.sz]
    cases n' <;> exact XR.err
  | succ n ih =>
    intro a b h n' hn
    obtain ⟨n'', rfl⟩ : ∃ k, n' = k + 1 := ⟨n' - 1, by omega⟩
    have hbs : b.pos < b.input.size := by rw [h.eb]; simp only [ext_size, ext_pos]; have := h.sz; omega
    rw [lexExpressionLoop_step, lexExpressionLoop_step, if_pos h.sz, if_pos hbs]
    exact (h.ignoreRun he _ (by decide)).bind fun ta tb ht =>
      dispatch_rel ta tb exprRows (fun e _ => (ht.acc he e.acc e.acc_wf).2)
        (fun e _ ha => (x_erow e ht he ha).bind fun _ _ h2 => ih h2 (by omega)) (.pure ht)

theorem x_lexExpression {a b : Scan} (h : X p r a b) (he : Ends p) : XR p r (lexExpression a) (lexExpression b) := by
  unfold lexExpression
  exact x_lexExpressionLoop he h (by rw [h.eb]; simp only [ext_size, ext_pos]; omega)

theorem x_lexOperand {a b : Scan} (h : X p r a b) (he : Ends p) : XR p r (lexOperand a) (lexOperand b) := by
  rw [lexOperand_eq, lexOperand_eq]
  exact ((h.bracket he _ (by decide)).ignoreRun he _ (by decide)).bind fun _ _ h1 => (x_lexExpression h1 he).bind fun _ _ h2 =>
    (h2.ignoreRun he _ (by decide)).bind fun _ _ h3 => (x_optIndex h3 he).bind fun _ _ h4 =>
    ((h4.bracket he _ (by decide)).ignoreRun he _ (by decide)).bind fun _ _ h5 => x_optIndex h5 he

theorem x_lexOpcodeSize {a b : Scan} (h : X p r a b) (he : Ends p) : XR p r (lexOpcodeSize a) (lexOpcodeSize b) := by
  unfold lexOpcodeSize
  simp only []
  have ha := h.ignore.accept he (chars "bBwWlL") false (by decide)
  exact .ite ha.2 (fun _ => ((ha.1.emit _).ignoreRun he _ (by decide)).bind fun _ _ h1 => x_lexOperand h1 he) fun _ => XR.err

theorem x_opTail {a b : Scan} (h : X p r a b) (he : Ends p) : XR p r (opTail a) (opTail b) :=
  have ha := h.accept he ['.'] false (by decide)
  (XR.ite ha.2 (fun _ => x_lexOpcodeSize ha.1 he) fun _ => .pure h).bind fun _ _ h1 =>
    (h1.ignoreRun he _ (by decide)).bind fun _ _ h2 => x_lexOperand h2 he

theorem x_nakedAhead {a b : Scan} (h : X p r a b) (he : Ends p) : XR p r (nakedAhead a) (nakedAhead b) :=
  (h.acceptRun he _ false (by decide)).bind fun _ _ h1 =>
    have hs := h1.accept he [';'] false (by decide)
    .ite hs.2 (fun _ => hs.1.acceptRun he _ true (by decide)) fun _ => .pure hs.1

theorem x_lexOpcode (cfg : ScanCfg) {a b : Scan} (h : X p r a b) (he : Ends p) :
    XR p r (lexOpcode cfg a) (lexOpcode cfg b) := by
  have hbs : b.start = a.start := by rw [h.eb]; rfl
  have hbp : b.pos = a.pos := by rw [h.eb]; rfl
  rw [lexOpcode_eq, lexOpcode_eq, hbs, hbp, h.slice _ _ (Nat.le_of_lt h.lt), h.peek]
  refine .ite rfl (fun _ => (x_nakedAhead h he).bind fun a3 b3 h3 => ?_) fun _ => x_opTail (h.emit _) he
  have hset : X p r { a3 with pos := a.pos } { b3 with pos := a.pos } := h3.setPos _ h.lt
  exact .ite (by rw [h3.peek]) (fun _ => x_emit hset _) fun _ => x_opTail (hset.emit _) he

/-- the rows of `lex_initial`; `hst` : the state before the acceptor is between tokens -/
theorem x_row (row : Row) (hcfg : ∀ cfg, row = .word cfg → CfgOK cfg) {a b : Scan} (h : X p r a b) (he : Ends p)
    (hst : a.start = a.pos) (ha : (row.acc.run a).2 = true) :
    XRL p r (row.act a (row.acc.run a).1) (row.act b (row.acc.run b).1) := by
  have hfuel : a.input.size - a.pos + 2 ≤ b.input.size - b.pos + 2 := by
    rw [h.eb]; simp only [ext_size, ext_pos]; omega
  have h1 := (h.acc he row.acc row.acc_wf).1
  cases row with
  | expr e => exact (x_erow e h he ha).toL
  | tok2 c c2 t2 t1 _ hwf2 => exact XRL.pure (h1.emit2 he hwf2 _ _).toL
  | keyword cfg => exact (x_lexKeyword cfg h1 he).toL
  | quoted => exact (x_lexQuotedString h1 he).toL
  | lineComment => exact x_lexLineComment he h1 hfuel
  | blockComment =>
    show XRL p r (blockCommentLoop _ _ _ >>= _) (blockCommentLoop _ _ _ >>= _)
    exact ((x_blockCommentLoop he h1.toL hfuel).bind fun _ _ h2 => x_emit h2 _).toL
  | word cfg =>
    have ha : (a.accept letterChars).2 = true := ha
    have hbk : X p r (a.accept letterChars).1.backup (b.accept letterChars).1.backup := h1.backup
    obtain ⟨_, hbp, _⟩ := accept_backup a letterChars high_letter.nul ha
    have ho := x_acceptOpcode cfg (hcfg cfg rfl) hbk he
      (by rw [backup_start, hbp, accept_start, hst]; exact Nat.le_refl _)
    exact (XR.ite ho.2 (fun _ => x_lexOpcode cfg ho.1 he) fun _ => x_lexIdentifier hbk he).toL

/-- `lex_initial` over the extended text, when the blanks it first skips end before the end of `p` -/
theorem x_lexInitial (cfg : ScanCfg) (hcfg : CfgOK cfg) {a b : Scan} (h : X p r a b) (he : Ends p) (ta : Scan)
    (hta : a.ignoreRun [' ', '\t', '\n'] = .ok ta) (hlt : ta.pos < p.size) :
    XRL p r (lexInitial cfg a) (lexInitial cfg b) := by
  have ht : X p r ta (ext r ta) := ⟨rfl, by rw [((safe_ignoreRun a _ he_ws).of_ok hta).input, h.input], hlt⟩
  have htb : b.ignoreRun [' ', '\t', '\n'] = .ok (ext r ta) := by
    obtain ⟨u, hu, rfl⟩ := ignoreRun_ok hta
    rw [h.eb, ignoreRun_eq, ext_acceptRun a u _ false hu (by rw [h.input]; exact hlt)]
    rfl
  rw [lexInitial_eq, lexInitial_eq, hta, htb, ok_bind, ok_bind]
  refine dispatch_rel ta (ext r ta) (initRows cfg) (fun row _ => (ht.acc he row.acc row.acc_wf).2)
    (fun row hm ha => x_row row (fun c hc => by subst hc; rw [initRows_word hm]; exact hcfg) ht he
      (ignoreRun_idem hta).2 ha) ?_
  -- a character that starts no token: the run over `p` raises
  rw [initDefault_eq, if_pos ht.sz]
  exact XRL.err

/-- between tokens the pending text is empty: `start = pos` when a state function returns to `Scanner.scan` -/
def SP (r : SR) : Prop := ∀ s', r = .ok s' → s'.start = s'.pos

theorem SP.emit (s : Scan) (ty : TokTy) : SP (pure (s.emit ty)) := by intro s' h; cases h; rfl
theorem SP.emit' (s : Scan) (ty : TokTy) : SP (.ok (s.emit ty)) := by intro s' h; cases h; rfl
theorem SP.ignore (s : Scan) : SP (pure s.ignore) := by intro s' h; cases h; rfl
theorem SP.err (e : Err × Scan) : SP (.error e) := by intro s' h; cases h
theorem SP.ignoreRun (s : Scan) (cands : List Char) : SP (s.ignoreRun cands) := by
  intro s' h; exact (ignoreRun_idem h).2
theorem SP.bind {r : SR} {f : Scan → SR} (hf : ∀ a, SP (f a)) : SP (r >>= f) := by
  intro s' h
  cases r with
  | error e => cases h
  | ok a => exact hf a s' h
theorem SP.ite {c : Prop} [Decidable c] {x y : SR} (hx : SP x) (hy : SP y) : SP (if c then x else y) := by
  split <;> assumption

theorem sp_runEmit (s : Scan) (c : List Char) (ty : TokTy) : SP (s.acceptRun c >>= fun s => pure (s.emit ty)) :=
  .bind fun _ => .emit _ _

theorem sp_lexIdentifier (s : Scan) : SP (lexIdentifier s) := by
  rw [lexIdentifier_eq]
  exact .bind fun a => .ite (.ignore _) (.ite (sp_runEmit _ _ _) (.emit _ _))

theorem sp_lexNumber (s : Scan) : SP (lexNumber s) := by
  unfold lexNumber
  exact .ite (.emit _ _) (.ite (.ite (sp_runEmit _ _ _) (.ite (sp_runEmit _ _ _) (.ite (sp_runEmit _ _ _) (.emit _ _))))
    (sp_runEmit _ _ _))

theorem sp_lexQuotedString (s : Scan) : SP (lexQuotedString s) := by
  unfold lexQuotedString
  exact .bind fun _ => .emit _ _

theorem sp_lexKeyword (cfg : ScanCfg) (s : Scan) : SP (lexKeyword cfg s) := by
  unfold lexKeyword
  exact .bind fun _ => .ite (.emit _ _) (.err _)

theorem sp_lexOpcodeIndex (s : Scan) : SP (lexOpcodeIndex s) := by
  unfold lexOpcodeIndex
  exact .bind fun _ => .ite (.emit _ _) (.err _)

theorem sp_runOptIndex (s : Scan) : SP (s.ignoreRun [' '] >>= optIndex) := by
  intro s' h
  obtain ⟨t, hr, h⟩ := bind_ok h
  unfold optIndex at h
  split at h
  · exact sp_lexOpcodeIndex _ s' h
  · cases h; exact SP.ignoreRun s _ _ hr

theorem sp_lexOperand (s : Scan) : SP (lexOperand s) := by
  rw [lexOperand_eq]
  exact .bind fun _ => .bind fun _ => .bind fun _ => .bind fun _ => sp_runOptIndex _

theorem sp_lexOpcodeSize (s : Scan) : SP (lexOpcodeSize s) := by
  unfold lexOpcodeSize
  exact .ite (.bind sp_lexOperand) (.err _)

theorem sp_opTail (s : Scan) : SP (opTail s) := .bind fun _ => .bind sp_lexOperand

theorem sp_lexOpcode (cfg : ScanCfg) (s : Scan) : SP (lexOpcode cfg s) := by
  rw [lexOpcode_eq]
  exact .ite (.bind fun _ => .ite (.emit _ _) (sp_opTail _)) (sp_opTail _)

theorem sp_row (row : Row) (t s : Scan) : SP (row.act t s) := by
  cases row with
  | expr e =>
    cases e with
    | tok => exact .emit _ _
    | number => exact sp_lexNumber _
    | ident => exact sp_lexIdentifier _
  | tok2 => exact fun s' h => by cases h; unfold emit2; split <;> rfl
  | word cfg => exact .ite (sp_lexOpcode cfg _) (sp_lexIdentifier _)
  | keyword cfg => exact sp_lexKeyword cfg _
  | quoted => exact sp_lexQuotedString _
  | lineComment => exact .bind fun _ => .emit _ _
  | blockComment => exact .bind fun _ => .emit _ _

theorem sp_lexInitial (cfg : ScanCfg) (s : Scan) : SP (lexInitial cfg s) := by
  rw [lexInitial_eq]
  intro s' h
  obtain ⟨t, hr, h⟩ := bind_ok h
  refine dispatch_ind (Q := SP) t (initRows cfg) (fun row _ _ => sp_row row _ _) ?_ s' h
  rw [initDefault_eq]
  exact .ite (.err _) fun s' h => by cases h; exact SP.ignoreRun s _ _ hr

/-- the scan of `p ++ r` passes through the state in which the scan of `p` ends, up to blanks at the end of `p` that
    only the scan of `p` skips there -/
theorem prefix_reach (cfg : ScanCfg) (hcfg : CfgOK cfg) (he : Ends p) (r : List Char) : ∀ (n : Nat) (a sp : Scan),
    a.input = p → a.start = a.pos → a.pos ≤ p.size → scanLoop cfg .initial n a = .ok sp →
    ∃ s, Reach cfg .initial (ext r a) (ext r s) ∧ s.input = p ∧ s.start = s.pos ∧ s.pos ≤ p.size ∧
      (p.toList.drop s.pos).all (fun c => [' ', '\t', '\n'].contains c) = true ∧ s.toks = sp.toks := by
  have noRest : ∀ (a : Scan), a.input = p → ¬ a.pos < a.input.size → (p.toList.drop a.pos).all (fun c => [' ', '\t', '\n'].contains c) = true := by
    intro a hin hge
    rw [List.drop_of_length_le (by rw [hin] at hge; simp; omega)]; rfl
  intro n
  induction n with
  | zero =>
    intro a sp hin hst hle h
    unfold scanLoop at h
    split at h
    · cases h
    · cases h; exact ⟨a, .refl _, hin, hst, hle, noRest a hin ‹_›, rfl⟩
  | succ n ih =>
    intro a sp hin hst hle h
    rw [scanLoop_succ] at h
    split at h
    · rename_i hlt
      obtain ⟨a1, hl, h⟩ := bind_ok h
      split at h
      · cases h
      · rename_i hg
        obtain ⟨t, hta⟩ := ignoreRun_returns a [' ', '\t', '\n'] he_ws
        have hlat := (safe_ignoreRun a _ he_ws).of_ok hta
        by_cases hin2 : t.pos < p.size
        · -- a token follows before the end of `p`: the same iteration happens over the extended text
          obtain ⟨b1, hb1, hxl⟩ := x_lexInitial cfg hcfg ⟨rfl, hin, hin ▸ hlt⟩ he _ hta hin2 a1 hl
          obtain ⟨s, hr, hs⟩ := ih a1 sp hxl.input (sp_lexInitial cfg a a1 hl) hxl.le h
          exact ⟨s, .step (s1 := ext r a1) (by rw [ext_size, ext_pos]; omega) (hxl.eb ▸ hb1) hg hr, hs⟩
        · -- only blanks are left in `p`: the scan of `p` skips them and ends
          have hge : ¬ t.pos < t.input.size := by rw [hlat.input, hin]; exact hin2
          rw [show runState cfg .initial a = lexInitial cfg t from lexInitial_skip cfg hta,
            lexInitial_eof cfg _ hge (ignoreRun_idem hta).2] at hl
          cases hl
          rw [scanLoop_eof cfg .initial n _ hge] at h
          cases h
          refine ⟨a, .refl _, hin, hst, hle, ?_, (ignoreRun_toks hta).symm⟩
          obtain ⟨_, d2, _⟩ := ignoreRun_dropWhile a _ _ (by decide) hta
          rw [List.drop_of_length_le (by rw [Array.length_toList]; omega), hin] at d2
          exact dropWhile_nil_all _ _ d2.symm
    · cases h; exact ⟨a, .refl _, hin, hst, hle, noRest a hin ‹_›, rfl⟩

end A816.ScanX
