import A816.Model.Table
import A816.Spec.Table
/-! Helper lemmas for C18: the three descending searches of the table code (`tryLen`, `tryLenBytes`,
    `Spec.Table.longestFrom`) are one function with one specification; what the two lookups return; the pieces of the
    `[0x..]` escape; one iteration of `to_bytes` is one function (`encStep`), one step of `to_text`. -/
namespace A816
open Spec.Table

/-- `for i in range(k, 0, -1)`: the first (largest) `i` with `f i` defined -/
def firstDown {α} (f : Nat → Option α) : Nat → Option (α × Nat)
  | 0 => none
  | k+1 => match f (k+1) with
    | some a => some (a, k+1)
    | none => firstDown f k

theorem firstDown_eq_none_iff {α} {f : Nat → Option α} {k : Nat} :
    firstDown f k = none ↔ ∀ m, 1 ≤ m → m ≤ k → f m = none := by
  induction k with
  | zero => exact ⟨fun _ m h1 h2 => by omega, fun _ => rfl⟩
  | succ k ih =>
    unfold firstDown
    cases hf : f (k + 1) with
    | some a => exact ⟨nofun, fun h => by rw [h (k + 1) (by omega) (Nat.le_refl _)] at hf; cases hf⟩
    | none =>
      rw [ih]
      exact ⟨fun h m h1 h2 => (Nat.le_succ_iff.mp h2).elim (h m h1) (· ▸ hf), fun h m h1 h2 => h m h1 (by omega)⟩

theorem firstDown_eq_some_iff {α} {f : Nat → Option α} {k n : Nat} {a : α} :
    firstDown f k = some (a, n) ↔ 1 ≤ n ∧ n ≤ k ∧ f n = some a ∧ ∀ m, n < m → m ≤ k → f m = none := by
  induction k with
  | zero => exact ⟨nofun, fun h => by omega⟩
  | succ k ih =>
    unfold firstDown
    cases hf : f (k + 1) with
    | some b =>
      refine ⟨fun h => ?_, fun ⟨_, h2, h3, h4⟩ => ?_⟩
      · cases h; exact ⟨by omega, Nat.le_refl _, hf, fun m h1 h2 => by omega⟩
      · -- `n` is `k + 1`: nothing above `n` is defined
        obtain rfl : n = k + 1 := Nat.le_antisymm h2 (Nat.not_lt.mp fun hn => by
          rw [h4 (k + 1) hn (Nat.le_refl _)] at hf; cases hf)
        rw [hf] at h3; cases h3; rfl
    | none =>
      rw [ih]
      refine ⟨fun ⟨h1, h2, h3, h4⟩ => ⟨h1, by omega, h3, fun m hm hk => ?_⟩, fun ⟨h1, h2, h3, h4⟩ => ?_⟩
      · exact (Nat.le_succ_iff.mp hk).elim (h4 m hm) (· ▸ hf)
      · have : n ≠ k + 1 := fun e => by rw [e, hf] at h3; cases h3
        exact ⟨h1, by omega, h3, fun m hm hk => h4 m hm (by omega)⟩

theorem tryLen_eq (es : List TblEntry) (rem : List Char) (k : Nat) :
    tryLen es rem k = firstDown (fun i => tblLookup es (rem.take i)) k := by
  induction k with
  | zero => rfl
  | succ k ih => unfold tryLen firstDown; rw [ih]; cases tblLookup es (rem.take (k + 1)) <;> rfl

theorem tryLenBytes_eq (es : List TblEntry) (rem : List Nat) (k : Nat) :
    tryLenBytes es rem k = firstDown (fun i => tblInvLookup es (rem.take i)) k := by
  induction k with
  | zero => rfl
  | succ k ih => unfold tryLenBytes firstDown; rw [ih]; cases tblInvLookup es (rem.take (k + 1)) <;> rfl

theorem longestFrom_eq (tbl : List Line) (s : List Char) (k : Nat) :
    longestFrom tbl s k = firstDown (fun i => codeOf tbl (s.take i)) k := by
  induction k with
  | zero => rfl
  | succ k ih => unfold longestFrom firstDown; rw [ih]; cases codeOf tbl (s.take (k + 1)) <;> rfl

/-- going down from a larger bound to `k` finds nothing new when nothing longer than `k` can match -/
theorem longestFrom_shrink {tbl : List Line} {s : List Char} {k j : Nat}
    (hnone : ∀ m, k < m → m ≤ k + j → codeOf tbl (s.take m) = none) :
    longestFrom tbl s (k + j) = longestFrom tbl s k := by
  induction j with
  | zero => rfl
  | succ j ih =>
    have : k + (j + 1) = (k + j) + 1 := by omega
    rw [this]
    conv => lhs; unfold longestFrom
    rw [hnone (k + j + 1) (by omega) (by omega)]
    exact ih (fun m h1 h2 => hnone m h1 (by omega))

theorem Except.toOption_map {ε α β} (x : Except ε α) (f : α → β) : (x.map f).toOption = x.toOption.map f := by
  cases x <;> rfl

/-- a successful table lookup comes from an entry of the table -/
theorem tblLookup_entry {es : List TblEntry} {text : List Char} {c : List Nat} (h : tblLookup es text = some c) :
    ∃ e ∈ es, e.text = text ∧ e.code = c := by
  unfold tblLookup at h
  simp only [Option.map_eq_some_iff] at h
  obtain ⟨e, he, hc⟩ := h
  exact ⟨e, by simpa using List.mem_of_find?_eq_some he, by simpa using List.find?_some he, hc⟩

theorem tblInvLookup_some {es : List TblEntry} {c : List Nat} {e : TblEntry} (h : tblInvLookup es c = some e) :
    e ∈ es ∧ e.code = c :=
  ⟨List.mem_reverse.mp (List.mem_of_find?_eq_some h), eq_of_beq (List.find?_some (p := fun x : TblEntry => x.code == c) h)⟩

theorem tblInvLookup_none {es : List TblEntry} {c : List Nat} (h : tblInvLookup es c = none) :
    ∀ e ∈ es, e.code ≠ c :=
  fun e he hc => List.find?_eq_none.mp h e (List.mem_reverse.mpr he) (beq_iff_eq.mpr hc)

/-- the running maximum is above its start value and above every member -/
theorem foldl_max_ge (l : List Nat) : ∀ (init x : Nat), x ∈ l ∨ x ≤ init → x ≤ l.foldl max init := by
  induction l with
  | nil => intro init x h; exact h.resolve_left List.not_mem_nil
  | cons a l ih =>
    intro init x h
    refine ih _ _ (h.elim (fun hm => (List.mem_cons.mp hm).symm.imp_right fun e => ?_) fun hi => .inr ?_)
    · exact e ▸ Nat.le_max_right init a
    · exact Nat.le_trans hi (Nat.le_max_left init a)

theorem tblLookup_len {es : List TblEntry} {text : List Char} {c : List Nat} (h : tblLookup es text = some c) :
    text.length ≤ (es.map (·.text.length)).foldl max 0 := by
  obtain ⟨e, he, rfl, _⟩ := tblLookup_entry h
  exact foldl_max_ge _ 0 _ (.inl (List.mem_map_of_mem he))

/-- `max_text_length` and `max_code_length` as `Table.__init__` computes them -/
theorem mkTable_max {lines : List (List Char)} {t : Tbl} (h : mkTable lines = .ok t) :
    t.maxTextLen = (t.entries.map (·.text.length)).foldl max 0 ∧
    t.maxCodeLen = (t.entries.map (·.code.length)).foldl max 0 := by
  unfold mkTable at h
  split at h
  · cases h
  · cases h
  · cases h; exact ⟨rfl, rfl⟩

theorem spanHex_eq (cs : List Char) :
    (spanChars isHexChar cs).1.filterMap digitVal = (takeHex cs).1 ∧ (spanChars isHexChar cs).2 = (takeHex cs).2 ∧
    ((spanChars isHexChar cs).1.isEmpty = (takeHex cs).1.isEmpty) ∧
    (spanChars isHexChar cs).1.length = (takeHex cs).1.length := by
  induction cs with
  | nil => simp [spanChars, takeHex]
  | cons c cs ih =>
    have hv : Spec.Table.hexVal c = digitVal c := rfl
    unfold spanChars takeHex
    cases hd : digitVal c with
    | none => simp [isHexChar, hd, hv]
    | some d =>
      obtain ⟨i1, i2, _, i4⟩ := ih
      simp [isHexChar, hd, hv, i1, i2, i4]

theorem digitVal_lt_16 {c : Char} {d : Nat} (h : digitVal c = some d) : d < 16 := by
  unfold digitVal at h
  split at h
  · next hc => cases h; have : c.toNat ≤ 57 := hc.2; omega
  · split at h
    · next hc => cases h; have : c.toNat ≤ 102 := hc.2; omega
    · split at h
      · next hc => cases h; have : c.toNat ≤ 70 := hc.2; omega
      · cases h

theorem parseDigits_hex (cs : List Char) (acc : Nat) (hall : ∀ c ∈ cs, isHexChar c = true) :
    parseDigits 16 cs acc = some ((cs.filterMap digitVal).foldl (fun a d => a * 16 + d) acc) := by
  induction cs generalizing acc with
  | nil => simp [parseDigits]
  | cons c cs ih =>
    have hc := hall c (by simp)
    unfold isHexChar at hc
    cases hd : digitVal c with
    | none => simp [hd] at hc
    | some d =>
      simp only [parseDigits, hd, digitVal_lt_16 hd, ↓reduceIte, List.filterMap_cons, List.foldl_cons]
      exact ih _ (fun x hx => hall x (List.mem_cons_of_mem _ hx))

theorem spanChars_all (p : Char → Bool) (cs : List Char) : ∀ c ∈ (spanChars p cs).1, p c = true := by
  induction cs with
  | nil => exact nofun
  | cons c cs ih =>
    unfold spanChars
    split
    · exact List.forall_mem_cons.mpr ⟨‹_›, ih⟩
    · exact nofun

/-- a match of `joker_regex` has at least the four characters `[0x]` -/
theorem jokerMatch_pos {rem : List Char} {v n : Nat} (h : jokerMatch rem = some (v, n)) : 4 ≤ n := by
  unfold jokerMatch at h
  split at h
  · dsimp only at h
    split at h
    · cases h
    · split at h
      · simp only [Option.map_eq_some_iff, Prod.mk.injEq] at h
        obtain ⟨_, _, _, h⟩ := h; omega
      · cases h
  · cases h

theorem jokerMatch_none (rem : List Char) (h : '[' ∉ rem) : jokerMatch rem = none := by
  unfold jokerMatch
  rw [if_neg fun h3 => h (List.mem_of_mem_take (h3 ▸ List.mem_cons_self))]

/-- one iteration of the loop of `to_bytes` on a non-empty remainder: the bytes emitted and the number of
    characters consumed; `none` = the `ValueError` of an escape above 0xFF -/
def encStep (t : Tbl) (textLen : Nat) (rem : List Char) : Option (List Nat × Nat) :=
  match jokerMatch rem with
  | some (v, n) => if v > 255 then none else some ([v], n)
  | none => some ((tryLen t.entries rem (min textLen t.maxTextLen)).getD ([], 1))

theorem toBytesAux_succ (t : Tbl) (textLen fuel : Nat) (rem : List Char) :
    toBytesAux t textLen (fuel + 1) rem =
      if rem.isEmpty then .ok [] else
      match encStep t textLen rem with
      | none => .error .value
      | some (out, n) => (toBytesAux t textLen fuel (rem.drop n)).map (out ++ ·) := by
  conv => lhs; unfold toBytesAux
  unfold encStep
  generalize toBytesAux t textLen fuel = go
  split
  · rfl
  · cases jokerMatch rem with
    | some vn =>
      obtain ⟨v, n⟩ := vn
      dsimp only; split
      · rfl
      · dsimp only; cases go (rem.drop n) <;> rfl
    | none =>
      dsimp only
      cases tryLen t.entries rem (min textLen t.maxTextLen) with
      | some ci => obtain ⟨c, i⟩ := ci; dsimp only [Option.getD]; cases go (rem.drop i) <;> rfl
      | none => dsimp only [Option.getD]; cases go (rem.drop 1) <;> rfl

/-- every iteration consumes a character -/
theorem encStep_pos {t : Tbl} {textLen : Nat} {rem : List Char} {out : List Nat} {n : Nat}
    (h : encStep t textLen rem = some (out, n)) : 1 ≤ n := by
  unfold encStep at h
  split at h
  · split at h
    · cases h
    · cases h; have := jokerMatch_pos ‹_›; omega
  · cases ht : tryLen t.entries rem (min textLen t.maxTextLen) with
    | none => rw [ht] at h; cases h; exact Nat.le_refl 1
    | some ci =>
      rw [ht] at h; cases h
      rw [tryLen_eq] at ht; exact (firstDown_eq_some_iff.mp ht).1

/-- one iteration on a remainder without `[`: either the code of an entry whose text is the slice consumed, or nothing
    for one character when no slice within the bound is a table text -/
theorem encStep_plain (t : Tbl) (textLen : Nat) {rem : List Char} (hb : '[' ∉ rem) :
    (∃ e ∈ t.entries, ∃ n, e.text = rem.take n ∧ encStep t textLen rem = some (e.code, n)) ∨
    (encStep t textLen rem = some ([], 1) ∧
      ∀ m, 1 ≤ m → m ≤ min textLen t.maxTextLen → tblLookup t.entries (rem.take m) = none) := by
  unfold encStep
  rw [jokerMatch_none rem hb, tryLen_eq]
  cases ht : firstDown (fun i => tblLookup t.entries (rem.take i)) (min textLen t.maxTextLen) with
  | some ci =>
    obtain ⟨e, hem, hetext, hecode⟩ := tblLookup_entry (firstDown_eq_some_iff.mp ht).2.2.1
    exact .inl ⟨e, hem, ci.2, hetext, by rw [hecode]; rfl⟩
  | none => exact .inr ⟨rfl, firstDown_eq_none_iff.mp ht⟩

/-- one step of `to_text` on an entry without `ignore` suffix -/
theorem toTextAux_found (t : Tbl) (fuel : Nat) {rem : List Nat} {e : TblEntry} {i : Nat} (hne : rem ≠ [])
    (h : tryLenBytes t.entries rem (min rem.length t.maxCodeLen) = some (e, i)) (hi : e.ignore = none) :
    toTextAux t (fuel + 1) rem = (toTextAux t fuel (rem.drop i)).map (e.text ++ ·) := by
  obtain ⟨b, rest, rfl⟩ := List.exists_cons_of_ne_nil hne
  rw [toTextAux]
  simp only [h, hi]
  cases toTextAux t fuel (List.drop i (b :: rest)) <;> rfl

end A816
