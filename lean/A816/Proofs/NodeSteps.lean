import A816.Proofs.ResolverOps
/-!
# What `pc_after` and `emit` of a node do to the resolver

One case analysis over the node kinds for each of the two functions: `pcAfter_step` (`PassStep`) and `emitNode_step`
(`EmitStep`).  The invariants of the passes are proved from these two views and the equations of `ResolverOps`; the loops
of `resolve_labels` are taken apart by `passLoop_cons` / `passLoop_append` / `resolveLabels_bind`.
-/
namespace A816.LabelCheck
open A816

def isMarker : Node → Bool
  | .scopeEnter => true
  | .scopePop => true
  | _ => false

/-- names whose entry in `labels` a node writes -/
def labelNames : Node → List String
  | .label n => [n]
  | .binary _ b => [b]
  | _ => []

/-- names whose entry in `symbols` a node may write -/
def symNames : Node → List String
  | .label n => [n]
  | .binary _ b => [b, b ++ "__size"]
  | .symbol n _ => [n]
  | .argSymbol n _ => [n]
  | .symbolConst n _ => [n]
  | _ => []

theorem labelNames_sub (n : Node) (x : String) (h : x ∈ labelNames n) : x ∈ symNames n := by
  cases n with
  | label => exact h
  | binary => exact List.mem_singleton.mp h ▸ List.mem_cons_self
  | _ => cases h

/-- a node list without scope markers: every pass over it stays in one scope -/
def Flat (ns : List Node) : Prop := ∀ n ∈ ns, isMarker n = false

theorem Flat.cons {n : Node} {ns : List Node} (h : Flat (n :: ns)) : isMarker n = false ∧ Flat ns :=
  ⟨h n List.mem_cons_self, fun m hm => h m (List.mem_cons_of_mem _ hm)⟩

theorem Flat.append {a b : List Node} (h : Flat (a ++ b)) : Flat a ∧ Flat b :=
  ⟨fun m hm => h m (List.mem_append_left _ hm), fun m hm => h m (List.mem_append_right _ hm)⟩

end A816.LabelCheck

namespace A816
open LabelCheck

theorem Except.bind_ok {ε α β} {x : Except ε α} {f : α → Except ε β} {b : β} (h : x.bind f = .ok b) :
    ∃ a, x = .ok a ∧ f a = .ok b := by
  cases x with
  | error e => cases h
  | ok a => exact ⟨a, rfl, h⟩

theorem Except.map_pair_ok {ε α β ρ} {x : Except ε α} {r r' : ρ} {g : α → β} {b : β}
    (h : x.map (fun a => (r, g a)) = .ok (r', b)) : r' = r ∧ ∃ a, x = .ok a ∧ g a = b := by
  cases x with
  | error e => cases h
  | ok a => cases h; exact ⟨rfl, a, rfl, rfl⟩

/-- the label pass of a statement that only takes room: `Address + k` succeeded, the resolver is untouched -/
theorem addrAdd_map_ok {pc pc' : Address} {r r' : Resolver} {k : Nat}
    (h : (addrAdd pc k).map (fun a => (r, a)) = .ok (r', pc')) : r' = r ∧ pc.add k = some pc' := by
  obtain ⟨hr, a, ha, rfl⟩ := Except.map_pair_ok h
  unfold addrAdd at ha
  split at ha <;> cases ha
  exact ⟨hr, ‹_›⟩

theorem Except.of_ite_error {ε α} {c : Prop} [Decidable c] {e : ε} {x : Except ε α} {a : α}
    (h : (if c then .error e else x) = .ok a) : x = .ok a := by
  split at h
  · cases h
  · exact h

/-- the end of a sized instruction's `emit`: a `NodeError` of the encoder gets the statement's position -/
theorem Except.wrap_ok {x : Except Err (List Nat)} {info : Tok} {r r' : Resolver} {bs : List Nat}
    (h : (match x with
          | .error (.node msg _) => Except.error (nodeErr msg info)
          | .error er => Except.error er
          | .ok b => Except.ok (r, b)) = Except.ok (r', bs)) : x = .ok bs ∧ r' = r := by
  cases x with
  | error er => cases er <;> cases h
  | ok b => cases h; exact ⟨rfl, rfl⟩

/-- the resolver after a returning `pc_after` (the view says nothing about the address returned) -/
inductive PassStep (pc : Address) (r : Resolver) : Node → Resolver → Prop
  | enter : r.lastUsed + 1 < r.scopes.size →
      PassStep pc r .scopeEnter { r with lastUsed := r.lastUsed + 1, current := r.lastUsed + 1 }
  | leave {p} : r.cur.parent = some p → PassStep pc r .scopePop { r with scopes := r.leftScopes true p, current := p }
  | label (name) : PassStep pc r (.label name) (r.addLabel name pc.logical)
  | binary (c base) : PassStep pc r (.binary c base) ((r.addLabel base pc.logical).addSymbol (base ++ "__size") c.length)
  | symbol {n} (name v) : isMarker n = false → labelNames n = [] → symNames n = [name] → PassStep pc r n (r.addSymbol name v)
  | other {n} : isMarker n = false → labelNames n = [] → symNames n = [] → PassStep pc r n r

theorem pcAfter_step {env : Env} {n : Node} {r r' : Resolver} {pc pc' : Address}
    (h : pcAfter env n r pc = .ok (r', pc')) : PassStep pc r n r' := by
  have same : ∀ {m : Node}, isMarker m = false → labelNames m = [] → symNames m = [] → r' = r → PassStep pc r m r' :=
    fun h1 h2 h3 e => e ▸ .other h1 h2 h3
  cases n <;> simp only [pcAfter] at h
  case label name => cases h; exact .label name
  case symbolConst name v => cases h; exact .symbol name v rfl rfl rfl
  case includeIps | table => cases h; exact .other rfl rfl rfl
  case data | ascii => exact same rfl rfl rfl (addrAdd_map_ok h).1
  case scopeEnter =>
    split at h <;> cases h
    obtain ⟨hlt, rfl⟩ := Resolver.useNextScope_some ‹_›
    exact .enter hlt
  case scopePop =>
    split at h <;> cases h
    obtain ⟨p, hp, rfl⟩ := Resolver.restoreScope_some ‹_›
    exact .leave hp
  case symbol name e => split at h <;> cases h; exact .symbol name _ rfl rfl rfl
  case argSymbol name e =>
    repeat' split at h
    all_goals cases h
    exact .symbol name _ rfl rfl rfl
  case binary c base => split at h <;> cases h; exact .binary c base
  case text =>
    split at h
    · cases h
    · exact same rfl rfl rfl (addrAdd_map_ok h).1
  case codePos | reloc =>
    repeat' split at h
    all_goals cases h
    exact .other rfl rfl rfl
  case opcode =>
    split at h
    · cases h
    · split at h
      · cases h
      · exact same rfl rfl rfl (addrAdd_map_ok h).1

/-- `*=` and `@=` -/
def isPosition : Node → Bool
  | .codePos _ _ | .reloc _ _ => true
  | _ => false

/-- the resolver after a returning `emit`.  The bytes are named only where the resolver moves (none are emitted there);
    of a node that leaves the resolver as it is (`stay`) the view says nothing about `bs` -/
inductive EmitStep (env : Env) (r : Resolver) : Node → Resolver → List Nat → Prop
  | enter : r.lastUsed + 1 < r.scopes.size →
      EmitStep env r .scopeEnter { r with lastUsed := r.lastUsed + 1, current := r.lastUsed + 1 } []
  | leave {p} : r.cur.parent = some p → EmitStep env r .scopePop { r with current := p } []
  | pos {n} (e info) {v bus a} : n = .codePos e info ∨ n = .reloc e info → getValue env r e info = .ok v →
      r.getBus = some bus → Address.mk? bus v = some a → EmitStep env r n { r with pc := a.physical.getD r.pc, reloc := a } []
  | stay {n bs} : isMarker n = false → isPosition n = false → EmitStep env r n r bs

/-- a returning `emit` of an instruction: the emitter found and, by its kind, the encoder call that gave the bytes -/
theorem emitNode_opcode {env : Env} {mn : String} {size : Option Nat} {mode : AddrMode} {index : Option Idx}
    {value : Option PExpr} {info : Tok} {r r' : Resolver} {bs : List Nat}
    (h : emitNode env (.opcode mn size mode index value info) r = .ok (r', bs)) :
    r' = r ∧ ∃ e, opcodeEmitter env mn mode index info = .ok e ∧
      ((e.kind = .implied ∧ emitEntry e size none = .ok bs) ∨
       (e.kind = .relative ∧ ∃ ve v, value = some ve ∧ getValue env r ve info = .ok v ∧ emitRelative r e v = .ok bs) ∨
       (e.kind = .sized ∧ ∃ ve v, value = some ve ∧ getValue env r ve info = .ok v ∧ emitEntry e size (some v) = .ok bs)) := by
  simp only [emitNode] at h
  cases he : opcodeEmitter env mn mode index info with
  | error er => rw [he] at h; cases h
  | ok e =>
    rw [he] at h
    cases hk : e.kind <;> simp only [hk] at h
    · obtain ⟨hr, b, hb, rfl⟩ := Except.map_pair_ok h
      exact ⟨hr, e, rfl, .inl ⟨hk, hb⟩⟩
    · cases value with
      | none => cases h
      | some ve =>
        simp only at h
        split at h
        · cases h
        · obtain ⟨hr, b, hb, rfl⟩ := Except.map_pair_ok h
          exact ⟨hr, e, rfl, .inr (.inl ⟨hk, ve, _, rfl, ‹_›, hb⟩)⟩
    · cases value with
      | none => cases h
      | some ve =>
        simp only at h
        have h := Except.of_ite_error h
        split at h
        · cases h
        · obtain ⟨hb, hr⟩ := Except.wrap_ok h
          exact ⟨hr, e, rfl, .inr (.inr ⟨hk, ve, _, rfl, ‹_›, hb⟩)⟩

theorem emitNode_step {env : Env} {n : Node} {r r' : Resolver} {bs : List Nat}
    (h : emitNode env n r = .ok (r', bs)) : EmitStep env r n r' bs := by
  have same : ∀ {m : Node}, isMarker m = false → isPosition m = false → r' = r → EmitStep env r m r' bs :=
    fun h1 h2 e => e ▸ .stay h1 h2
  cases n <;> simp only [emitNode] at h
  case symbol | argSymbol | symbolConst | includeIps | table | ascii => cases h; exact .stay rfl rfl
  case label => exact same rfl rfl (Except.map_pair_ok h).1
  case binary c _ => exact same rfl rfl (Except.map_pair_ok h).1
  case text => exact same rfl rfl (Except.map_pair_ok h).1
  case data => split at h <;> cases h; exact .stay rfl rfl
  case scopeEnter =>
    split at h <;> cases h
    obtain ⟨hlt, rfl⟩ := Resolver.useNextScope_some ‹_›
    exact .enter hlt
  case scopePop =>
    split at h <;> cases h
    obtain ⟨p, hp, rfl⟩ := Resolver.restoreScope_some ‹_›
    exact .leave hp
  case codePos e info =>
    repeat' split at h
    all_goals cases h
    obtain ⟨bus, a, hb, ha, rfl⟩ := Resolver.setPosition_some ‹_›
    exact .pos e info (.inl rfl) ‹_› hb ha
  case reloc e info =>
    repeat' split at h
    all_goals cases h
    obtain ⟨bus, a, hb, ha, rfl⟩ := Resolver.setPosition_some ‹_›
    exact .pos e info (.inr rfl) ‹_› hb ha
  case opcode => exact same rfl rfl (emitNode_opcode (by simp only [emitNode]; exact h)).1

/-- `*=` / `@=`: the target is evaluated, the resolver is moved there, nothing is emitted -/
theorem emitNode_position {env : Env} {n : Node} {e : PExpr} {info : Tok} (hn : n = .codePos e info ∨ n = .reloc e info)
    {r r' : Resolver} {bs : List Nat} (h : emitNode env n r = .ok (r', bs)) :
    bs = [] ∧ ∃ v bus a, getValue env r e info = .ok v ∧ r.getBus = some bus ∧ Address.mk? bus v = some a ∧
      r' = { r with pc := a.physical.getD r.pc, reloc := a } := by
  cases emitNode_step h with
  | enter | leave => rcases hn with hn | hn <;> cases hn
  | stay _ hp => rcases hn with rfl | rfl <;> cases hp
  | pos e' info' hn' hv hb ha =>
    rcases hn with rfl | rfl <;> rcases hn' with h | h <;> cases h <;> exact ⟨rfl, _, _, _, hv, hb, ha, rfl⟩

/-- the emission-time check succeeds exactly when the label pass gave the name this address and the name evaluates to it -/
theorem checkLabel_ok_iff {r : Resolver} {name : String} {a : Address} :
    checkLabel r name a = .ok () ↔
      alookup name r.cur.labels = some (a.logical : Int) ∧ r.look name = .int (a.logical : Int) := by
  unfold checkLabel Resolver.look
  constructor
  · intro h
    split at h
    · rename_i hl
      refine ⟨hl, ?_⟩
      split at h
      · rename_i v hv
        split at h
        · rename_i he; rw [hv, he]
        · cases h
      · cases h
    · cases h
  · rintro ⟨hl, hv⟩
    rw [if_pos hl]
    cases hf : r.valueFor name <;> rw [hf] at hv <;> simp only [Look.int.injEq, reduceCtorEq] at hv
    simp only [hv, ↓reduceIte]

theorem passLoop_cons (env : Env) (skip : Node → Bool) (n : Node) (ns : List Node) (r : Resolver) (pc : Address) :
    passLoop env skip (n :: ns) r pc =
      if skip n then passLoop env skip ns r pc else (pcAfter env n r pc).bind fun p => passLoop env skip ns p.1 p.2 := by
  rw [passLoop]; split
  · rfl
  · cases pcAfter env n r pc <;> rfl

theorem passLoop_append (env : Env) (skip : Node → Bool) (a b : List Node) (r : Resolver) (pc : Address) :
    passLoop env skip (a ++ b) r pc = (passLoop env skip a r pc).bind fun p => passLoop env skip b p.1 p.2 := by
  fun_induction passLoop env skip a r pc with
  | case1 => rfl
  | case2 n ns r pc hs ih => simpa only [List.cons_append, passLoop, hs, ↓reduceIte] using ih
  | case3 n ns r pc hs e he => simp only [List.cons_append, passLoop, hs, Bool.false_eq_true, ↓reduceIte, he, Except.bind]
  | case4 n ns r pc hs r1 pc1 he ih => simpa only [List.cons_append, passLoop, hs, Bool.false_eq_true, ↓reduceIte, he] using ih

theorem passLoop_split {env : Env} {skip : Node → Bool} {pre : List Node} {n : Node} {post : List Node}
    {r r' : Resolver} {pc pc' : Address} (h : passLoop env skip (pre ++ n :: post) r pc = .ok (r', pc')) :
    ∃ r1 pc1, passLoop env skip pre r pc = .ok (r1, pc1) ∧ passLoop env skip (n :: post) r1 pc1 = .ok (r', pc') := by
  rw [passLoop_append] at h
  obtain ⟨⟨r1, pc1⟩, h1, h2⟩ := Except.bind_ok h
  exact ⟨r1, pc1, h1, h2⟩

theorem resolveLabels_bind (env : Env) (nodes : List Node) (r : Resolver) :
    resolveLabels env nodes r =
      (passLoop env Node.isSymbol nodes { r with lastUsed := 0 } r.reloc).bind fun p =>
        (passLoop env Node.isLabelOrBinary nodes (resolverReset p.1) (resolverReset p.1).reloc).bind fun q =>
          .ok (resolverReset q.1) := by
  unfold resolveLabels
  simp only []
  cases passLoop env Node.isSymbol nodes { r with lastUsed := 0 } r.reloc with
  | error e => rfl
  | ok p =>
    simp only [Except.bind]
    cases passLoop env Node.isLabelOrBinary nodes (resolverReset p.1) (resolverReset p.1).reloc <;> rfl

end A816
