import A816.Model.Parser
/-!
# The parser never runs out of fuel (C15 `parse_terminates`)

Every `while` loop and every (mutual) recursion of `parser_states.py` is modelled by one structural fuel
argument.  This file proves that `2·(tokens left) + 6` fuel is always enough when no source file can be
included (`fs.text = []`: every `.include` fails with `OSError` before parsing anything): **for every token
array** `parseProgram` — and every other parser function, with its own constant — returns or raises a real
exception, never `outOfFuel`.  The proof is one induction on the fuel carrying, for the twelve functions at
once (`IH`), a Hoare triple `Tri`: "with `2·(size − pos) + K` fuel the call does not run out, keeps the token
array and the file system, never moves `pos` backwards, and (expressions, statements, opcodes, keywords)
consumes at least one token that lies inside the array".  The last part is what bounds the Python loops:
`parse_block`, `parse_initial` and the list loops call a function that strictly consumes input each time.
The fuel bounds the depth of calls: `K` is the rank of a function among those that can be reached without
consuming a token (program 6, statement 5, opcode / keyword 4, operand 3, expression 2, its node list 1), and
a `{` costs two levels (statement, block).

Each function is walked once, statement by statement, with one rule per kind of statement (`Rule.*`, each
fused with the `>>=` that follows it); the side conditions — the fuel at a call, the position at a return —
are linear and left to `omega`: they are auto-parameters of `Rule.call`, `Rule.last`, `Rule.done`, and the facts they need
(`p < T.size` from a token that was read and is not `EOF`) are put in the context by a `have hp := …` or a `fun hp => …` that
nothing mentions again.  The induction is `all`; C15 reads its components (`parse_terminates` is `prog`).
-/
open A816
namespace A816.ParseFuel

/-- the computation does not run out of fuel; when it returns, `Q` holds of the result -/
def Tri {α} (m : PM α) (st : PState) (Q : α → PState → Prop) : Prop :=
  match m st with
  | .ok (a, st') => Q a st'
  | .error e => e ≠ .outOfFuel

theorem Tri.bind {α β} {m : PM α} {f : α → PM β} {st : PState} {Q : β → PState → Prop}
    (h : Tri m st (fun a st1 => Tri (f a) st1 Q)) : Tri (m >>= f) st Q := by
  unfold Tri at *
  show (match (StateT.bind m f) st with | .ok (a, st') => Q a st' | .error e => e ≠ .outOfFuel)
  unfold StateT.bind
  cases hm : m st with
  | error e => simp only [hm] at h ⊢; exact h
  | ok p => obtain ⟨a, st1⟩ := p; simp only [hm] at h ⊢; exact h

theorem Tri.mono {α} {m : PM α} {st : PState} {P Q : α → PState → Prop}
    (h : Tri m st P) (hpq : ∀ a st', P a st' → Q a st') : Tri m st Q := by
  unfold Tri at *
  cases hm : m st with
  | error e => simp only [hm] at h ⊢; exact h
  | ok p => obtain ⟨a, st1⟩ := p; simp only [hm] at h ⊢; exact hpq _ _ h

theorem Tri.pure {α} {a : α} {st : PState} {Q : α → PState → Prop} (h : Q a st) : Tri (pure a) st Q := h
theorem Tri.pNext {st : PState} {Q : Tok → PState → Prop}
    (h : Q (st.toks.getD st.pos eofTok) { st with pos := st.pos + 1 }) : Tri pNext st Q := h
theorem Tri.pCurrent {st : PState} {Q : Tok → PState → Prop}
    (h : Q (st.toks.getD st.pos eofTok) st) : Tri pCurrent st Q := h
theorem Tri.pPeek {st : PState} {Q : Tok → PState → Prop}
    (h : Q (st.toks.getD (st.pos + 1) eofTok) st) : Tri pPeek st Q := h
theorem Tri.pBackup {st : PState} {Q : Unit → PState → Prop}
    (h : Q () { st with pos := st.pos - 1 }) : Tri pBackup st Q := h
theorem Tri.get {st : PState} {Q : PState → PState → Prop} (h : Q st st) : Tri get st Q := h
theorem Tri.set {st s : PState} {Q : PUnit → PState → Prop} (h : Q ⟨⟩ s) : Tri (set s) st Q := h
theorem Tri.modify {st : PState} {f : PState → PState} {Q : PUnit → PState → Prop} (h : Q ⟨⟩ (f st)) :
    Tri (modify f) st Q := h
theorem Tri.throw {α} {e : Err} {st : PState} {Q : α → PState → Prop} (h : e ≠ .outOfFuel) :
    Tri (throw e : PM α) st Q := h
theorem Tri.pFail {α} {t : Tok} {st : PState} {Q : α → PState → Prop} : Tri (pFail t : PM α) st Q := by
  show syntaxErr t ≠ .outOfFuel
  unfold syntaxErr; split <;> simp
theorem Tri.expectTok {t : Tok} {ty : TokTy} {st : PState} {Q : Unit → PState → Prop}
    (h : t.ty = ty → Q () st) : Tri (expectTok t ty) st Q := by
  unfold A816.expectTok
  by_cases hc : t.ty = ty
  · simp only [hc, beq_self_eq_true, ↓reduceIte]; exact h hc
  · have : (t.ty == ty) = false := by simpa using hc
    simp only [this, Bool.false_eq_true, ↓reduceIte]; exact Tri.pFail
theorem Tri.ite {α} {c : Prop} [Decidable c] {a b : PM α} {st : PState} {Q : α → PState → Prop}
    (ha : c → Tri a st Q) (hb : ¬ c → Tri b st Q) : Tri (if c then a else b) st Q := by
  by_cases h : c
  · simp only [h, ↓reduceIte]; exact ha h
  · simp only [h, ↓reduceIte]; exact hb h

variable (cfg : ParseCfg) (T : Array Tok) (F : FS)

/-- the state is `(T, p', F)` for a position `p'` with `R p'` -/
def At (R : Nat → Prop) (st' : PState) : Prop := ∃ p', st' = ⟨T, p', F⟩ ∧ R p'

/-- what is known of every parser function at one fuel value -/
structure IH (fuel : Nat) : Prop where
  nodes : ∀ p, 2 * (T.size - p) + 1 ≤ fuel →
    Tri (parseExprNodes cfg fuel) ⟨T, p, F⟩ (fun _ => At T F fun p' => p < p' ∧ p < T.size)
  expr : ∀ p, 2 * (T.size - p) + 2 ≤ fuel →
    Tri (parseExpr cfg fuel) ⟨T, p, F⟩ (fun _ => At T F fun p' => p < p' ∧ p < T.size)
  operand : ∀ mode opcode p, 2 * (T.size - p) + 3 ≤ fuel →
    Tri (parseOperand cfg fuel mode opcode) ⟨T, p, F⟩ (fun _ => At T F fun p' => p ≤ p')
  opcode : ∀ p, 2 * (T.size - p) + 4 ≤ fuel →
    Tri (parseOpcode cfg fuel) ⟨T, p, F⟩ (fun _ => At T F fun p' => p < p')
  kw : ∀ p, 2 * (T.size - p) + 4 ≤ fuel →
    Tri (parseKeyword cfg fuel) ⟨T, p, F⟩ (fun _ => At T F fun p' => p < p')
  decl : ∀ p, 2 * (T.size - p) + 5 ≤ fuel →
    Tri (parseDecl cfg fuel) ⟨T, p, F⟩ (fun _ => At T F fun p' => p < p' ∧ p < T.size)
  block : ∀ p, 2 * (T.size - p) + 6 ≤ fuel →
    Tri (parseBlock cfg fuel) ⟨T, p, F⟩ (fun _ => At T F fun p' => p ≤ p')
  list : ∀ p, 2 * (T.size - p) + 5 ≤ fuel →
    Tri (parseExprListInner cfg fuel) ⟨T, p, F⟩ (fun _ => At T F fun p' => p ≤ p')
  margs : ∀ p, 2 * (T.size - p) + 1 ≤ fuel →
    Tri (parseMacroArgsLoop cfg fuel) ⟨T, p, F⟩ (fun _ => At T F fun p' => p ≤ p')
  mapl : ∀ p, 2 * (T.size - p) + 1 ≤ fuel →
    Tri (parseMapLoop cfg fuel) ⟨T, p, F⟩ (fun _ => At T F fun p' => p ≤ p')
  struct : ∀ p, 2 * (T.size - p) + 1 ≤ fuel →
    Tri (parseStructLoop cfg fuel) ⟨T, p, F⟩ (fun _ => At T F fun p' => p ≤ p')
  prog : ∀ p, 2 * (T.size - p) + 6 ≤ fuel →
    Tri (parseProgram cfg fuel) ⟨T, p, F⟩ (fun _ => At T F fun p' => p ≤ p')

theorem Tri.monoAt {α} {m : PM α} {st : PState} {R : Nat → Prop} {Q : α → PState → Prop}
    (h : Tri m st (fun _ => At T F R)) (k : ∀ a p', R p' → Q a ⟨T, p', F⟩) : Tri m st Q :=
  Tri.mono h (by rintro a _ ⟨p', rfl, hr⟩; exact k a p' hr)

macro "call" h:term : tactic => `(tactic| refine Tri.monoAt _ _ ($h _ ?_) ?_)

/-- `t` is what the parser sees at position `n`: the end-of-input token unless `n` lies inside the array.  This is
    all that is kept about a token that has been read (it stays a variable): a successful test of its type or
    text then places `n` inside the array, which is what the fuel arithmetic needs. -/
def Read (T : Array Tok) (n : Nat) (t : Tok) : Prop := t = eofTok ∨ n < T.size

section
variable {T : Array Tok} {F : FS} {n p : Nat} {t : Tok} {α β : Type} {Q : α → PState → Prop} {st : PState}

theorem read (T : Array Tok) (n : Nat) : Read T n (T.getD n eofTok) := by
  by_cases h : n < T.size
  · exact .inr h
  · exact .inl (by simp [Array.getD, h])

theorem Read.ty {X : TokTy} (h : Read T n t) (e : t.ty = X) (hX : X ≠ .EOF := by decide) : n < T.size :=
  h.resolve_left fun ht => hX (by rw [← e, ht]; rfl)
theorem Read.beq {X : TokTy} (h : Read T n t) (e : (t.ty == X) = true) (hX : X ≠ .EOF := by decide) :
    n < T.size := h.ty (eq_of_beq e) hX
theorem Read.val {s : String} (h : Read T n t) (e : (t.val == s) = true) (hs : s ≠ "" := by decide) :
    n < T.size := h.resolve_left fun ht => hs (by rw [← eq_of_beq e, ht]; rfl)

theorem Rule.next {f : Tok → PM α} (h : ∀ t, Read T p t → Tri (f t) ⟨T, p + 1, F⟩ Q) :
    Tri (pNext >>= f) ⟨T, p, F⟩ Q := Tri.bind (Tri.pNext (h _ (read T p)))
theorem Rule.cur {f : Tok → PM α} (h : ∀ t, Read T p t → Tri (f t) ⟨T, p, F⟩ Q) :
    Tri (pCurrent >>= f) ⟨T, p, F⟩ Q := Tri.bind (Tri.pCurrent (h _ (read T p)))
theorem Rule.peek {f : Tok → PM α} (h : ∀ t, Read T (p + 1) t → Tri (f t) ⟨T, p, F⟩ Q) :
    Tri (pPeek >>= f) ⟨T, p, F⟩ Q := Tri.bind (Tri.pPeek (h _ (read T (p + 1))))
theorem Rule.back {f : Unit → PM α} (h : Tri (f ()) ⟨T, p - 1, F⟩ Q) :
    Tri (pBackup >>= f) ⟨T, p, F⟩ Q := Tri.bind (Tri.pBackup h)
theorem Rule.ret {a : β} {f : β → PM α} (h : Tri (f a) st Q) : Tri (pure a >>= f) st Q := Tri.bind (Tri.pure h)
theorem Rule.fail {f : β → PM α} : Tri (pFail t >>= f) st Q := Tri.bind Tri.pFail
theorem Rule.throw {e : Err} {f : β → PM α} (h : e ≠ .outOfFuel := by decide) : Tri (throw e >>= f) st Q :=
  Tri.bind (Tri.throw h)
theorem Rule.get {f : PState → PM α} (h : Tri (f st) st Q) : Tri (get >>= f) st Q := Tri.bind (Tri.get h)
theorem Rule.modify {g : PState → PState} {f : PUnit → PM α} (h : Tri (f ⟨⟩) (g st) Q) :
    Tri (modify g >>= f) st Q := Tri.bind (Tri.modify h)
/-- the continuation runs only if the token has the type, and then it was inside the array -/
theorem Rule.expect {ty : TokTy} {f : Unit → PM α} (hr : Read T n t) (h : n < T.size → Tri (f ()) st Q)
    (hty : ty ≠ .EOF := by decide) : Tri (expectTok t ty >>= f) st Q :=
  Tri.bind (Tri.expectTok fun e => h (hr.ty e hty))
/-- `let t ← pNext; expectTok t ty; …` -/
theorem Rule.eat {ty : TokTy} {k : Tok → PM α} (h : ∀ t, p < T.size → Tri (k t) ⟨T, p + 1, F⟩ Q)
    (hty : ty ≠ .EOF := by decide) : Tri (pNext >>= fun t => expectTok t ty >>= fun _ => k t) ⟨T, p, F⟩ Q :=
  Rule.next fun t ht => Rule.expect ht (h t) hty
theorem Rule.ifTy {X : TokTy} {a b : PM α} (hr : Read T n t) (ha : n < T.size → Tri a st Q) (hb : Tri b st Q)
    (hX : X ≠ .EOF := by decide) : Tri (if (t.ty == X) = true then a else b) st Q :=
  Tri.ite (fun e => ha (hr.beq e hX)) fun _ => hb
theorem Rule.ifVal {s : String} {a b : PM α} (hr : Read T n t) (ha : n < T.size → Tri a st Q) (hb : Tri b st Q)
    (hs : s ≠ "" := by decide) : Tri (if (t.val == s) = true then a else b) st Q :=
  Tri.ite (fun e => ha (hr.val e hs)) fun _ => hb
/-- a call whose specification is known (an induction hypothesis) once its fuel bound holds, then the rest -/
theorem Rule.call {m : PM β} {f : β → PM α} {R : Nat → Prop} {bound : Prop}
    (hm : bound → Tri m st (fun _ => At T F R)) (h : ∀ b p', R p' → Tri (f b) ⟨T, p', F⟩ Q)
    (hb : bound := by omega) : Tri (m >>= f) st Q :=
  Tri.bind (Tri.monoAt T F (hm hb) h)
/-- a call in tail position -/
theorem Rule.last {m : PM α} {R R' : Nat → Prop} {bound : Prop} (hm : bound → Tri m st (fun _ => At T F R))
    (hb : bound := by omega) (h : ∀ p', R p' → R' p' := by intros; omega) : Tri m st (fun _ => At T F R') :=
  Tri.monoAt T F (hm hb) fun _ p' hr => ⟨p', rfl, h p' hr⟩
/-- a state-preserving computation, then the rest -/
theorem Rule.keep {m : PM β} {f : β → PM α} (hm : Tri m st fun _ st' => st' = st) (h : ∀ b, Tri (f b) st Q) :
    Tri (m >>= f) st Q := Tri.bind (Tri.mono hm fun b _ e => e ▸ h b)
theorem Rule.done {a : α} {R : Nat → Prop} (h : R p := by omega) : Tri (pure a) ⟨T, p, F⟩ (fun _ => At T F R) :=
  Tri.pure ⟨p, rfl, h⟩
theorem Tri.mapM_keep (f : β → PM α) (hf : ∀ a st, Tri (f a) st (fun _ st' => st' = st)) :
    ∀ (l : List β) (st : PState), Tri (l.mapM f) st (fun _ st' => st' = st)
  | [], _ => Tri.pure rfl
  | a :: l, st => by
    rw [List.mapM_cons]
    exact Rule.keep (hf a st) fun _ => Rule.keep (Tri.mapM_keep f hf l st) fun _ => Tri.pure rfl
end

attribute [local irreducible] Tri

/-- the twelve triples, for every fuel -/
theorem all (hF : F.text = []) : ∀ fuel, IH cfg T F fuel
  | 0 => ⟨fun _ h => by omega, fun _ h => by omega, fun _ _ _ h => by omega, fun _ h => by omega,
      fun _ h => by omega, fun _ h => by omega, fun _ h => by omega, fun _ h => by omega,
      fun _ h => by omega, fun _ h => by omega, fun _ h => by omega, fun _ h => by omega⟩
  | fuel + 1 =>
    have ih := all hF fuel
    { nodes := fun p hb => by
        rw [parseExprNodes]
        refine Rule.next fun cur hcur => ?_
        -- the `do` block shares what follows the `if` (an optional `operator expression`) as a local function:
        -- it is specified once, from any later position, and its body is then forgotten
        extract_lets tail
        have htail : ∀ toks p1, p < p1 → p < T.size →
            Tri (tail toks) ⟨T, p1, F⟩ (fun _ => At T F fun p' => p < p' ∧ p < T.size) := fun _ _ _ _ =>
          Rule.cur fun _ _ => Tri.ite (fun _ => Rule.next fun _ _ => Rule.call (ih.nodes _) fun _ _ _ => Rule.done)
            fun _ => Rule.done
        clear_value tail
        refine Rule.ifTy hcur (fun hp => Rule.call (ih.nodes _) fun _ _ _ => Rule.cur fun _ _ =>
          Tri.bind (Tri.expectTok fun _ => Rule.next fun _ _ => Rule.ret (htail _ _ (by omega) hp))) ?_
        refine Rule.ifTy hcur (fun hp => Rule.ret (htail _ _ (by omega) hp)) ?_
        refine Rule.ifTy hcur (fun hp => Rule.ret (htail _ _ (by omega) hp)) ?_
        refine Rule.ifTy hcur (fun hp => Rule.ret (htail _ _ (by omega) hp)) ?_
        refine Tri.ite (fun hc => ?_) fun _ => Rule.fail
        have hp := hcur.beq (Bool.and_eq_true _ _ ▸ hc).1
        exact Rule.call (ih.nodes _) fun _ _ _ => Rule.ret (htail _ _ (by omega) hp)
      expr := fun p hb => by
        rw [parseExpr]
        exact Rule.cur fun _ _ => Rule.call (ih.nodes _) fun _ _ _ => Rule.done
      operand := fun mode opcode p hb => by
        rw [parseOperand]
        refine Rule.cur fun c hc => Rule.ifTy hc (fun _ => ?sharp) <| Rule.ifTy hc (fun _ => ?paren) <|
          Rule.ifTy hc (fun _ => ?bracket) <| Tri.ite (fun _ => ?plain) fun _ => Rule.done
        case sharp =>
          exact Rule.next fun _ _ => Rule.cur fun _ _ => Tri.ite (fun _ => Tri.pFail) fun _ =>
            Rule.call (ih.expr _) fun _ _ _ => Rule.done
        case bracket => exact Rule.next fun _ _ => Rule.call (ih.expr _) fun _ _ _ => Rule.eat fun _ _ => Rule.done
        case plain => exact Rule.call (ih.expr _) fun _ _ _ => Rule.done
        case paren =>
          refine Rule.get (Rule.next fun _ _ => Rule.call (ih.expr _) fun e p1 h1 => Rule.cur fun _ _ => ?_)
          extract_lets close
          -- `)` and the look-ahead that may send the parser back to the saved position `p`
          have hclose : ∀ x p2, p1 ≤ p2 → Tri (close x) ⟨T, p2, F⟩ (fun _ => At T F fun p' => p ≤ p') :=
            fun (_, _) _ _ => Rule.cur fun _ _ => Tri.bind (Tri.expectTok fun _ => Rule.peek fun _ _ => Tri.ite
              (fun _ => Rule.modify (show Tri _ ⟨T, p, F⟩ _ from Rule.call (ih.expr _) fun _ _ _ => Rule.done))
              fun _ => Rule.next fun _ _ => Rule.done)
          clear_value close
          exact Tri.ite (fun _ => Rule.next fun _ _ => Rule.ret (hclose _ _ (by omega))) fun _ =>
            Rule.ret (hclose _ _ (by omega))
      opcode := fun p hb => by
        rw [parseOpcode]
        refine Rule.next fun opcode _ => Rule.cur fun c _ => ?_
        extract_lets rest
        -- operand and optional `,x`: all that matters is that the mnemonic is already consumed
        have hrest : ∀ size p1, p < p1 → Tri (rest size) ⟨T, p1, F⟩ (fun _ => At T F fun p' => p < p') :=
          fun _ _ _ => Rule.call (ih.operand _ _ _) fun (mode1, _, _) _ _ => Rule.cur fun _ _ => Tri.ite
            (fun _ => Rule.next fun _ _ => Tri.ite (fun _ => Rule.fail) fun _ => by
              cases alookup mode1 cfg.indexMap with
              | none => exact Rule.throw
              | some m => exact Rule.ret Rule.done)
            fun _ => Rule.ret Rule.done
        clear_value rest
        exact Tri.ite (fun _ => Rule.next fun _ _ => Rule.ret (hrest _ _ (by omega))) fun _ =>
          Rule.ret (hrest _ _ (by omega))
      kw := fun p hb => by
        rw [parseKeyword]
        refine Rule.next fun kw hkw => ?_
        extract_lets quoted dataOf
        have hquoted : ∀ {f : String → PM Ast} {Q : Ast → PState → Prop} {p1 : Nat},
            (∀ s, p1 < T.size → Tri (f s) ⟨T, p1 + 1, F⟩ Q) → Tri (quoted >>= f) ⟨T, p1, F⟩ Q :=
          fun h => Tri.bind (Rule.eat fun _ hp => Tri.pure (h _ hp))
        have hdata : ∀ kind, p < T.size → Tri (dataOf kind) ⟨T, p + 1, F⟩ (fun _ => At T F fun p' => p < p') :=
          fun _ _ => Rule.call (ih.list _) fun _ _ _ => Rule.keep (Tri.mapM_keep _ (fun i _ => by
            cases i with
            | expr e => exact Tri.pure rfl
            | block _ _ => exact Tri.throw (by decide)) _ _) fun _ => Rule.done
        clear_value quoted dataOf
        refine Rule.ifVal hkw (fun _ => ?scope) <| Rule.ifVal hkw (fun _ => ?ascii) <| Rule.ifVal hkw (fun _ => ?text) <|
          Rule.ifVal hkw (hdata _) <| Rule.ifVal hkw (hdata _) <| Rule.ifVal hkw (hdata _) <| Rule.ifVal hkw (hdata _) <|
          Rule.ifVal hkw (fun _ => ?incl) <| Rule.ifVal hkw (fun _ => ?ips) <| Rule.ifVal hkw (fun _ => ?incbin) <|
          Rule.ifVal hkw (fun _ => ?table) <| Rule.ifVal hkw (fun _ => ?mac) <| Rule.ifVal hkw (fun _ => ?map) <|
          Rule.ifVal hkw (fun _ => ?cond) <| Rule.ifVal hkw (fun _ => ?loop) <| Rule.ifVal hkw (fun _ => ?struct) Tri.pFail
        case scope =>
          exact Rule.cur fun _ _ => Rule.eat fun _ _ => Rule.eat fun _ _ => Rule.call (ih.block _) fun _ _ _ => Rule.done
        case ascii | text => exact hquoted fun _ _ => Rule.done
        case incbin | table => exact hquoted fun _ _ => Rule.cur fun _ _ => Rule.done
        case incl =>
          -- no source file can be included: the lookup fails before anything is parsed
          refine hquoted fun path _ => Rule.get ?_
          dsimp only
          rw [hF]
          exact Tri.throw (by decide)
        case ips =>
          exact Rule.cur fun _ _ => hquoted fun _ _ => Rule.eat fun _ _ =>
            Rule.call (ih.expr _) fun _ _ _ => Rule.done
        case mac =>
          refine Rule.eat fun _ _ => Rule.eat fun _ _ => Rule.next fun first hfirst => ?_
          extract_lets body
          have hbody : ∀ params p1, p + 3 ≤ p1 → Tri (body params) ⟨T, p1, F⟩ (fun _ => At T F fun p' => p < p') :=
            fun _ _ _ => Rule.eat fun _ _ => Rule.eat fun _ _ => Rule.call (ih.block _) fun _ _ _ => Rule.done
          clear_value body
          exact Tri.ite (fun _ => Rule.back (Rule.ret (hbody _ _ (by omega)))) fun _ => Rule.expect hfirst fun _ =>
            Rule.call (ih.margs _) fun _ _ _ => Rule.ret (hbody _ _ (by omega))
        case map => exact Rule.cur fun _ hf => Rule.expect hf fun _ => Rule.call (ih.mapl _) fun _ _ _ => Rule.done
        case cond =>
          exact Rule.cur fun _ _ => Rule.call (ih.expr _) fun _ _ _ => Rule.eat fun _ _ =>
            Rule.call (ih.block _) fun _ _ _ => Rule.cur fun _ hc => Rule.ifVal hc
              (fun _ => Rule.next fun _ _ => Rule.eat fun _ _ => Rule.call (ih.block _) fun _ _ _ => Rule.done) Rule.done
        case loop =>
          exact Rule.cur fun _ _ => Rule.eat fun _ _ => Rule.eat fun _ _ => Rule.call (ih.expr _) fun _ _ _ =>
            Rule.eat fun _ _ => Rule.call (ih.expr _) fun _ _ _ => Rule.eat fun _ _ =>
            Rule.call (ih.block _) fun _ _ _ => Rule.done
        case struct =>
          exact Rule.cur fun _ _ => Rule.eat fun _ _ => Rule.eat fun _ _ => Rule.call (ih.struct _) fun _ _ _ =>
            Rule.eat fun _ _ => Rule.done
      decl := fun p hb => by
        rw [parseDecl]
        refine Rule.next fun cur hcur => Rule.ifTy hcur (fun _ => Rule.done) <|
          Rule.ifTy hcur (fun _ => Rule.cur fun _ _ => Rule.eat fun _ _ => Rule.eat fun _ _ => Rule.done) <|
          Tri.ite (fun hc => ?op) <|
          fun _ => Rule.ifTy hcur (fun _ => Rule.back (Rule.call (ih.kw _) fun _ _ _ => Rule.done)) <|
          Rule.ifTy hcur (fun _ => Rule.back (Rule.peek fun pk hpk => Rule.ifTy hpk
            (fun _ => Rule.next fun _ _ => Rule.eat fun _ _ => Rule.call (ih.list _) fun _ _ _ => Rule.eat fun _ _ => Rule.done)
            (Rule.cur fun _ _ => Rule.next fun _ _ => Rule.next fun _ hop =>
              Rule.ifTy hop (fun _ => Rule.call (ih.expr _) fun _ _ _ => Rule.done) <|
              Rule.ifTy hop (fun _ => Rule.call (ih.expr _) fun _ _ _ => Rule.done) Tri.pFail))) <|
          Rule.ifTy hcur (fun _ => Rule.done) <|
          Rule.ifTy hcur (fun _ => Rule.call (ih.block _) fun _ _ _ => Rule.done) <|
          Rule.ifTy hcur (fun _ => Rule.cur fun _ _ => Rule.call (ih.expr _) fun _ _ _ => Rule.done) <|
          Rule.ifTy hcur (fun _ => Rule.cur fun _ _ => Rule.call (ih.expr _) fun _ _ _ => Rule.done) Tri.pFail
        case op =>
          have hp := (Bool.or_eq_true _ _ ▸ hc).elim hcur.beq hcur.beq
          exact Rule.back (Rule.call (ih.opcode _) fun _ _ _ => Rule.done)
      block := fun p hb => by
        rw [parseBlock]
        exact Rule.cur fun _ _ => Tri.ite (fun _ => Rule.eat fun _ _ => Rule.done) fun _ =>
          Rule.call (ih.decl _) fun _ _ _ => Rule.call (ih.block _) fun _ _ _ => Rule.done
      list := fun p hb => by
        rw [parseExprListInner]
        refine Rule.cur fun c hc => Tri.ite (fun _ => Rule.done) fun _ => ?_
        extract_lets more
        -- `, item …` after an item that consumed a token of the array
        have hmore : ∀ item p1, p < p1 → p < T.size → Tri (more item) ⟨T, p1, F⟩ (fun _ => At T F fun p' => p ≤ p') :=
          fun _ _ _ _ => Rule.cur fun _ _ => Tri.ite
            (fun _ => Rule.next fun _ _ => Rule.call (ih.list _) fun _ _ _ => Rule.done) fun _ => Rule.done
        clear_value more
        exact Rule.ifTy hc
          (fun hp => Rule.next fun _ _ => Rule.call (ih.block _) fun _ _ _ => Rule.ret (hmore _ _ (by omega) hp))
          (Rule.call (ih.expr _) fun _ _ h => Rule.ret (hmore _ _ h.1 h.2))
      margs := fun p hb => by
        rw [parseMacroArgsLoop]
        exact Rule.next fun _ ht => Rule.ifTy ht (fun _ => Rule.back Rule.done) <|
          Rule.ifTy ht (fun _ => Rule.last (ih.margs _)) <|
          Rule.ifTy ht (fun _ => Rule.call (ih.margs _) fun _ _ _ => Rule.done) Tri.pFail
      mapl := fun p hb => by
        rw [parseMapLoop]
        refine Rule.cur fun _ _ => Tri.ite (fun _ => Rule.done) fun _ => Rule.next fun ident _ =>
          Tri.ite (fun _ => Tri.pFail) fun _ => Rule.eat fun _ _ => Rule.eat fun n1 _ => Rule.cur fun _ _ => ?_
        extract_lets more
        have hmore : ∀ v p1, p + 3 ≤ p1 → p + 2 < T.size → Tri (more v) ⟨T, p1, F⟩ (fun _ => At T F fun p' => p ≤ p') :=
          fun _ _ _ _ => Rule.call (ih.mapl _) fun _ _ _ => Rule.done
        clear_value more
        refine Tri.ite (fun _ => Rule.next fun _ _ => Rule.eat fun n2 _ => ?_) fun _ => ?_
        · split
          · exact Rule.ret (hmore _ _ (by omega) (by omega))
          · exact Rule.throw
        · split
          · exact Rule.ret (hmore _ _ (by omega) (by omega))
          · exact Rule.throw
      struct := fun p hb => by
        rw [parseStructLoop]
        exact Rule.cur fun _ hc => Tri.ite (fun _ => Rule.done) fun _ =>
          Rule.ifTy hc (fun _ => Rule.next fun _ _ => Rule.last (ih.struct _)) <|
          Rule.ifTy hc (fun _ => Rule.done) <|
          Rule.ifTy hc (fun _ => Rule.next fun _ _ => Rule.cur fun _ hf => Rule.expect hf fun _ => Rule.next fun _ _ =>
            Rule.last (ih.struct _)) Tri.pFail
      prog := fun p hb => by
        rw [parseProgram]
        exact Rule.cur fun _ _ => Tri.ite (fun _ => Rule.done) fun _ =>
          Rule.call (ih.decl _) fun _ _ _ => Rule.call (ih.prog _) fun _ _ _ => Rule.done }

theorem Tri.no_fuel {α} {m : PM α} {st : PState} {Q : α → PState → Prop} (h : Tri m st Q) :
    m st ≠ .error .outOfFuel := by
  unfold Tri at h
  intro he
  rw [he] at h
  exact h rfl

theorem Tri.post {α} {m : PM α} {st : PState} {Q : α → PState → Prop} (h : Tri m st Q) {a : α} {st' : PState}
    (hr : m st = .ok (a, st')) : Q a st' := by
  unfold Tri at h
  rw [hr] at h
  exact h

end A816.ParseFuel
