import A816.Model.Scanner
/-!
# Scanner lemmas shared by C15 (termination), C16 (layout) and C17 (positions)

Basic facts about the scanner primitives (`next`, `accept`, `accept_run`, `accept_prefix`), the candidate sets that lie at
or above `'0'` (`High`), the termination of the hand-written loops, and the loop of `Scanner.scan` (`scanLoop_succ`,
`scanLoop_rule`).  The property theorems built from them are in `Props/`.
-/
namespace A816.ScanB
open A816 Scan

@[simp] theorem handleLine_input (s : Scan) : s.handleLine.input = s.input := by
  unfold handleLine; split <;> rfl
@[simp] theorem handleLine_pos (s : Scan) : s.handleLine.pos = s.pos := by
  unfold handleLine; split <;> rfl

@[simp] theorem handleLine_start (s : Scan) : s.handleLine.start = s.start := by
  unfold handleLine; split <;> rfl
@[simp] theorem handleLine_toks (s : Scan) : s.handleLine.toks = s.toks := by
  unfold handleLine; split <;> rfl

theorem peek_eq (s : Scan) (h : s.pos < s.input.size) : s.input[s.pos]? = some s.peek := by
  unfold Scan.peek
  rw [Nat.add_zero, Array.getD_eq_getD_getElem?, Array.getElem?_eq_getElem h]
  rfl

/-- what `next()` does to the fields the walks compare (`start`, `toks`, `input`, `pos`), and what it returns -/
theorem next_fields (s : Scan) : (s.next).1.start = s.start ∧ (s.next).1.toks = s.toks ∧ (s.next).1.input = s.input ∧
    (s.next).1.pos = (if s.pos < s.input.size then s.pos + 1 else s.pos) ∧
    (s.next).2 = (if s.pos < s.input.size then some s.peek else none) := by
  unfold Scan.next
  by_cases h : s.pos < s.input.size
  · simp only [h, ↓reduceDIte, ↓reduceIte]
    refine ⟨?_, ?_, ?_, ?_, ?_⟩
    · split <;> simp only [handleLine_start]
    · split <;> simp only [handleLine_toks]
    · split <;> simp only [handleLine_input]
    · split <;> simp only [handleLine_pos]
    · rw [← peek_eq s h, Array.getElem?_eq_getElem h]
  · simp only [h, ↓reduceDIte, ↓reduceIte, and_self]

@[simp] theorem next_input (s : Scan) : (s.next).1.input = s.input := (next_fields s).2.2.1
@[simp] theorem next_toks (s : Scan) : (s.next).1.toks = s.toks := (next_fields s).2.1
theorem next_start (s : Scan) : (s.next).1.start = s.start := (next_fields s).1

theorem next_file (s : Scan) : (s.next).1.file = s.file := by
  unfold Scan.next
  split
  · simp only; split
    · unfold Scan.handleLine; split <;> rfl
    · rfl
  · rfl

theorem next_pos_lt (s : Scan) (h : s.pos < s.input.size) : (s.next).1.pos = s.pos + 1 := by
  rw [(next_fields s).2.2.2.1, if_pos h]

theorem next_snd (s : Scan) (h : s.pos < s.input.size) : (s.next).2 = some s.peek := by
  rw [(next_fields s).2.2.2.2, if_pos h]

theorem next_pos_ge (s : Scan) (h : ¬ s.pos < s.input.size) : (s.next).1 = s ∧ (s.next).2 = none := by
  unfold Scan.next; rw [dif_neg h]; exact ⟨rfl, rfl⟩

theorem next_pos_le (s : Scan) : s.pos ≤ (s.next).1.pos := by
  rw [(next_fields s).2.2.2.1]; split <;> omega

theorem next_some_iff (s : Scan) : (s.next).2 = none ↔ ¬ s.pos < s.input.size := by
  rw [(next_fields s).2.2.2.2]
  by_cases h : s.pos < s.input.size <;> simp only [h, ↓reduceIte, reduceCtorEq, not_true_eq_false, not_false_eq_true]

theorem backup_start (s : Scan) : s.backup.start = s.start := rfl

/-- `backup()` undoes a `next()` that consumed anything but a newline -/
theorem next_backup (s : Scan) (h : s.pos < s.input.size) (hc : s.peek ≠ '\n') : (s.next).1.backup = s := by
  have hne : s.input[s.pos] ≠ '\n' := fun hx =>
    hc (Option.some.inj (by rw [← peek_eq s h, Array.getElem?_eq_getElem h, hx]))
  unfold Scan.next
  rw [dif_pos h]
  simp only [hne, ↓reduceIte]
  rfl

theorem peek_eof (s : Scan) (h : ¬ s.pos < s.input.size) : s.peek = '\x00' := by
  unfold Scan.peek
  simp only [Nat.add_zero]
  rw [Array.getD_eq_getD_getElem?, Array.getElem?_eq_none (by omega)]
  rfl

theorem peek_k_of_drop (s : Scan) (k : Nat) {rest : List Char} (h : s.input.toList.drop s.pos = rest) :
    s.peek k = rest.getD k '\x00' := by
  unfold Scan.peek
  rw [Array.getD_eq_getD_getElem?, List.getD_eq_getElem?_getD, ← h, List.getElem?_drop, Array.getElem?_toList]

/-- `peek()` is the first character of the remaining text, NUL at its end -/
theorem peek_of_rest (s : Scan) {rest : List Char} (h : s.input.toList.drop s.pos = rest) : s.peek = rest.headD '\x00' := by
  rw [show s.peek = s.peek 0 from rfl, peek_k_of_drop s 0 h]
  cases rest <;> rfl

/-- does `accept(candidates, negate)` accept at end of input (where `peek()` is `"\0"`)? -/
def eofAccepts (cands : List Char) (negate : Bool) : Bool :=
  if negate then !(cands.contains '\x00') else cands.contains '\x00'

theorem accept_test (s : Scan) (cands : List Char) (negate : Bool) : (s.accept cands negate).2 = s.acceptTest cands negate := by
  unfold Scan.accept
  split
  · exact (‹_ = true›).symm
  · exact (Bool.eq_false_iff.mpr ‹_›).symm

theorem accept_eq (s : Scan) (cands : List Char) :
    s.accept cands = if cands.contains s.peek = true then ((s.next).1, true) else (s, false) := rfl

theorem accept_snd (s : Scan) (cands : List Char) : (s.accept cands false).2 = cands.contains s.peek := accept_test s cands false
theorem accept_neg_snd (s : Scan) (cands : List Char) : (s.accept cands true).2 = !cands.contains s.peek := accept_test s cands true

theorem accept_eof (s : Scan) (cands : List Char) (negate : Bool) (h : ¬ s.pos < s.input.size) :
    (s.accept cands negate).2 = eofAccepts cands negate := by
  rw [accept_test]
  unfold Scan.acceptTest eofAccepts
  rw [peek_eof s h]

theorem accept_step (s : Scan) (cands : List Char) (negate : Bool) :
    (s.accept cands negate).1.input = s.input ∧
    ((s.accept cands negate).2 = true → s.pos < s.input.size → (s.accept cands negate).1.pos = s.pos + 1) ∧
    s.pos ≤ (s.accept cands negate).1.pos := by
  unfold Scan.accept
  split
  · exact ⟨next_input s, fun _ h => next_pos_lt s h, next_pos_le s⟩
  · exact ⟨rfl, nofun, Nat.le_refl _⟩

/-- **`accept_run` terminates** when it does not accept at end of input: the fuel `len − pos + 1` suffices,
    the input is unchanged and `pos` only grows. -/
theorem acceptRun_terminates (cands : List Char) (negate : Bool) (he : eofAccepts cands negate = false) :
    ∀ (n : Nat) (s : Scan), s.input.size - s.pos ≤ n →
      ∃ s', acceptRunAux cands negate n s = some s' ∧ s'.input = s.input ∧ s.pos ≤ s'.pos := by
  intro n
  induction n with
  | zero =>
    intro s h
    have hge : ¬ s.pos < s.input.size := by omega
    unfold acceptRunAux
    rw [accept_eof s cands negate hge, he]
    exact ⟨s, by simp, rfl, Nat.le_refl _⟩
  | succ n ih =>
    intro s h
    unfold acceptRunAux
    by_cases hok : (s.accept cands negate).2 = true
    · by_cases hlt : s.pos < s.input.size
      · obtain ⟨h1, h2, _⟩ := accept_step s cands negate
        have hp := h2 hok hlt
        obtain ⟨s', e1, e2, e3⟩ := ih (s.accept cands negate).1 (by rw [h1, hp]; omega)
        refine ⟨s', ?_, by rw [e2, h1], by omega⟩
        simp only [hok, ↓reduceIte]; exact e1
      · rw [accept_eof s cands negate hlt, he] at hok; cases hok
    · simp only [hok]
      exact ⟨s, by simp, rfl, Nat.le_refl _⟩

theorem acceptRun_ok (s : Scan) (cands : List Char) (negate : Bool) (he : eofAccepts cands negate = false) :
    ∃ s', s.acceptRun cands negate = .ok s' ∧ s'.input = s.input ∧ s.pos ≤ s'.pos := by
  obtain ⟨s', h1, h2, h3⟩ := acceptRun_terminates cands negate he (s.input.size - s.pos + 1) s (by omega)
  exact ⟨s', by simp [Scan.acceptRun, h1], h2, h3⟩

/-- only characters from `'0'` up: neither the `"\0"` that `peek()` returns at the end of the input nor a newline.
    True of the candidate sets for letters, digits, identifiers, keywords and the digits of the number bases. -/
abbrev High (l : List Char) : Prop := ∀ c ∈ l, '0' ≤ c

theorem High.not_mem {l : List Char} (h : High l) {c : Char} (hc : c < '0') : l.contains c = false := by
  cases hx : l.contains c with
  | false => rfl
  | true => exact absurd (h c (List.contains_iff_mem.mp hx)) (Char.not_le.mpr hc)

theorem High.nul {l : List Char} (h : High l) : l.contains '\x00' = false := h.not_mem (by decide)
theorem High.nl {l : List Char} (h : High l) : l.contains '\n' = false := h.not_mem (by decide)
theorem High.eof {l : List Char} (h : High l) : eofAccepts l false = false := h.nul
theorem High.ne_nl {l : List Char} (h : High l) {c : Char} (hc : l.contains c = true) : c ≠ '\n' :=
  fun hx => by rw [hx, h.nl] at hc; cases hc

/-- the letters lie above every character that selects an earlier branch of `lex_initial` -/
theorem letter_ge : ∀ c ∈ letterChars, 'A' ≤ c := by decide +kernel
theorem high_letter : High letterChars := fun c hc => Char.le_trans (by decide) (letter_ge c hc)
theorem high_digit : High digitChars := by decide +kernel
theorem high_bin : High (chars "01") := by decide +kernel
theorem high_oct : High (chars "012345678") := by decide +kernel
theorem high_hex : High (chars "0123456789ABCDEFabcdef") := by decide +kernel
theorem high_kw : High (chars "abcdefghijklmnopqrstuvwxyz_") := by decide +kernel

/-- the identifier characters are the letters and the digits (the two strings are compared as strings) -/
theorem ident_eq : identChars = letterChars ++ digitChars :=
  (congrArg chars (by decide +kernel)).trans String.toList_append

theorem high_ident : High identChars := by
  rw [ident_eq]
  exact fun c hc => (List.mem_append.mp hc).elim (high_letter c) (high_digit c)

theorem letter_ident (c : Char) (h : letterChars.contains c = true) : identChars.contains c = true := by
  rw [ident_eq, List.contains_iff_mem] at *
  exact List.mem_append_left _ h

theorem he_sp : eofAccepts [' '] false = false := rfl
theorem he_spt : eofAccepts [' ', '\t'] false = false := rfl
theorem he_ws : eofAccepts [' ', '\t', '\n'] false = false := rfl
theorem he_eol : eofAccepts ['\n', '\x00'] true = false := rfl

/-- every `accept_run` call site of the code satisfies the condition (kernel-checked on the literal
    candidate strings of the model, through `High`) -/
theorem acceptRun_sites :
    eofAccepts identChars false = false ∧ eofAccepts digitChars false = false ∧
    eofAccepts [' '] false = false ∧ eofAccepts [' ', '\t'] false = false ∧ eofAccepts [' ', '\t', '\n'] false = false ∧
    eofAccepts (chars "01") false = false ∧ eofAccepts (chars "012345678") false = false ∧
    eofAccepts (chars "0123456789ABCDEFabcdef") false = false ∧
    eofAccepts (chars "abcdefghijklmnopqrstuvwxyz_") false = false ∧
    eofAccepts ['\n', '\x00'] true = false :=
  ⟨high_ident.eof, high_digit.eof, he_sp, he_spt, he_ws, high_bin.eof, high_oct.eof, high_hex.eof, high_kw.eof, he_eol⟩

/-- the loop would *not* terminate for a negated run whose candidates lack the `"\0"` sentinel: the
    model exhibits Python's non-termination (this is why `lex_opcode` spells the set `"\n\0"`) -/
example : (({ input := "ab".toList.toArray } : Scan).acceptRun ['\n'] true).toOption = none := by decide

/-- `;` comment loop: stops at the newline or at end of input -/
theorem lineComment_terminates : ∀ (n : Nat) (s : Scan), s.input.size - s.pos < n →
    ∃ s', lineCommentLoop n s = .ok s' ∧ s'.input = s.input ∧ s.pos ≤ s'.pos := by
  intro n
  induction n with
  | zero => intro s h; omega
  | succ n ih =>
    intro s h
    unfold lineCommentLoop
    split
    · exact ⟨_, rfl, next_input s, next_pos_le s⟩
    · rename_i hc
      have hlt : s.pos < s.input.size := Decidable.by_contra fun hge => hc (by rw [(next_pos_ge s hge).2]; rfl)
      obtain ⟨s', e1, e2, e3⟩ := ih (s.next).1 (by rw [next_input, next_pos_lt s hlt]; omega)
      exact ⟨s', e1, by rw [e2, next_input], Nat.le_trans (next_pos_le s) e3⟩

theorem acceptPrefix_step (s : Scan) (pre : List Char) :
    (s.acceptPrefix pre).1.input = s.input ∧ s.pos ≤ (s.acceptPrefix pre).1.pos := by
  unfold Scan.acceptPrefix
  split
  · exact ⟨rfl, by simp⟩
  · exact ⟨rfl, Nat.le_refl _⟩

/-- `/* … */` loop (F15 repair): every iteration consumes a character or ends; end of input raises the error
    built when the comment was opened -/
theorem blockComment_terminates (posErr : Err) : ∀ (n : Nat) (s : Scan), s.input.size - s.pos < n →
    (∃ s', blockCommentLoop posErr n s = .ok s' ∧ s'.input = s.input ∧ s.pos ≤ s'.pos) ∨
    (∃ s', blockCommentLoop posErr n s = .error (posErr, s')) := by
  intro n
  induction n with
  | zero => intro s h; omega
  | succ n ih =>
    intro s h
    unfold blockCommentLoop
    split
    · exact .inl ⟨_, rfl, acceptPrefix_step s _⟩
    · by_cases hlt : s.pos < s.input.size
      · rw [next_snd s hlt, if_neg (show ¬ (some s.peek == none) = true from Bool.false_ne_true)]
        rcases ih (s.next).1 (by rw [next_input, next_pos_lt s hlt]; omega) with ⟨s', e1, e2, e3⟩ | ⟨s', e⟩
        · exact .inl ⟨s', e1, by rw [e2, next_input], Nat.le_trans (next_pos_le s) e3⟩
        · exact .inr ⟨s', e⟩
      · rw [(next_pos_ge s hlt).2, if_pos (show ((none : Option Char) == none) = true from rfl)]
        exact .inr ⟨_, rfl⟩

/-- quoted-string loop: every iteration consumes at least one character; newline / end of input raise -/
theorem quoted_terminates (posErr : Err) : ∀ (n : Nat) (s : Scan) (c : Option Char),
    s.input.size - s.pos + 1 < n →
    (∃ s', quotedLoop posErr n s c = .ok s') ∨ (∃ s', quotedLoop posErr n s c = .error (posErr, s')) := by
  intro n
  induction n with
  | zero => intro s c h; omega
  | succ n ih =>
    intro s c h
    unfold quotedLoop
    split
    · exact .inl ⟨s, rfl⟩
    · split
      · exact .inr ⟨s, rfl⟩
      · generalize hs1 : (if (c == some '\\' && s.peek == '\'') = true then (s.next).1 else s) = s1
        have h1 : s1.input.size = s.input.size ∧ s.pos ≤ s1.pos := by
          rw [← hs1]; split
          · exact ⟨by rw [next_input], next_pos_le s⟩
          · exact ⟨rfl, Nat.le_refl _⟩
        by_cases hlt : s1.pos < s1.input.size
        · exact ih _ _ (by rw [next_input, next_pos_lt s1 hlt]; omega)
        · -- the input is exhausted: `next()` returns `None`, which ends the loop at its next test
          rw [(next_pos_ge s1 hlt).1, (next_pos_ge s1 hlt).2]
          cases n with
          | zero => omega
          | succ m => exact .inr ⟨s1, rfl⟩

theorem accept_toks (s : Scan) (cands : List Char) (negate : Bool) : (s.accept cands negate).1.toks = s.toks := by
  unfold Scan.accept
  split
  · exact next_toks s
  · rfl

theorem accept_start (s : Scan) (cands : List Char) (negate : Bool) : (s.accept cands negate).1.start = s.start := by
  unfold Scan.accept
  split
  · exact next_start s
  · rfl

theorem accept_snd_congr (a b : Scan) (cands : List Char) {negate : Bool} (hi : a.input = b.input) (hp : a.pos = b.pos) :
    (a.accept cands negate).2 = (b.accept cands negate).2 := by
  rw [accept_test, accept_test]
  unfold Scan.acceptTest Scan.peek
  rw [hi, hp]

theorem accept_true_lt (s : Scan) (cands : List Char) (h0 : cands.contains '\x00' = false)
    (h : (s.accept cands false).2 = true) : s.pos < s.input.size := by
  by_cases hlt : s.pos < s.input.size
  · exact hlt
  · rw [accept_eof s cands false hlt] at h
    simp only [eofAccepts, Bool.false_eq_true, ↓reduceIte] at h
    rw [h0] at h; cases h

theorem accept_lt (s : Scan) (cands : List Char) (h0 : cands.contains '\x00' = false)
    (h : (s.accept cands false).2 = true) : s.pos < (s.accept cands false).1.pos := by
  have hlt := accept_true_lt s cands h0 h
  rw [(accept_step s cands false).2.1 h hlt]; omega

theorem accept_start_lt (s : Scan) (cands : List Char) (h0 : cands.contains '\x00' = false) (hs : s.start ≤ s.pos)
    (ha : (s.accept cands).2 = true) : (s.accept cands).1.start < (s.accept cands).1.pos := by
  have := accept_lt s cands h0 ha
  rw [accept_start]; omega

theorem acceptPrefix_toks (s : Scan) (pre : List Char) : (s.acceptPrefix pre).1.toks = s.toks := by
  unfold Scan.acceptPrefix; split <;> rfl

theorem acceptPrefix_start (s : Scan) (pre : List Char) : (s.acceptPrefix pre).1.start = s.start := by
  unfold Scan.acceptPrefix; split <;> rfl

theorem acceptPrefix_true {s : Scan} {pre : List Char} (h : (s.acceptPrefix pre).2 = true) :
    (s.input.toList.drop s.pos).take pre.length = pre ∧ s.pos + pre.length ≤ s.input.size ∧
    (s.acceptPrefix pre).1.pos = s.pos + pre.length := by
  unfold Scan.acceptPrefix at h ⊢
  split
  · exact ⟨‹_ ∧ _›.1, ‹_ ∧ _›.2, rfl⟩
  · rw [if_neg ‹_›] at h; cases h

theorem acceptPrefix_lt (s : Scan) (pre : List Char) (hp : 0 < pre.length) (h : (s.acceptPrefix pre).2 = true) :
    s.pos < (s.acceptPrefix pre).1.pos := by
  rw [(acceptPrefix_true h).2.2]; omega

/-- whatever every successful `accept` keeps, `accept_run` keeps; and it stops where `accept` fails -/
theorem acceptRunAux_ind {P : Scan → Prop} (cands : List Char) (negate : Bool)
    (hstep : ∀ s, P s → (s.accept cands negate).2 = true → P (s.accept cands negate).1) :
    ∀ (n : Nat) (s s' : Scan), P s → acceptRunAux cands negate n s = some s' →
      P s' ∧ (s'.accept cands negate).2 = false := by
  intro n
  induction n with
  | zero =>
    intro s s' hs h
    unfold acceptRunAux at h
    split at h
    · cases h
    · rename_i hc; cases h; exact ⟨hs, by simpa using hc⟩
  | succ n ih =>
    intro s s' hs h
    unfold acceptRunAux at h
    simp only at h
    split at h
    · rename_i hc; exact ih _ _ (hstep s hs hc) h
    · rename_i hc; cases h; exact ⟨hs, by simpa using hc⟩

theorem acceptRun_ind {P : Scan → Prop} {s s' : Scan} {cands : List Char} {negate : Bool}
    (hstep : ∀ s, P s → (s.accept cands negate).2 = true → P (s.accept cands negate).1) (hs : P s)
    (h : s.acceptRun cands negate = .ok s') : P s' ∧ (s'.accept cands negate).2 = false := by
  unfold Scan.acceptRun at h
  split at h
  · rename_i s2 heq; cases h; exact acceptRunAux_ind cands negate hstep _ _ _ hs heq
  · cases h

theorem acceptRun_toks {s s' : Scan} {cands : List Char} {negate : Bool} (h : s.acceptRun cands negate = .ok s') :
    s'.toks = s.toks :=
  (acceptRun_ind (P := fun u => u.toks = s.toks) (fun u hu _ => by rw [accept_toks, hu]) rfl h).1

theorem acceptRun_lt {s s' : Scan} {cands : List Char} {negate : Bool} (ha : (s.accept cands negate).2 = true)
    (h : s.acceptRun cands negate = .ok s') : s.pos < s'.pos := by
  by_cases hp : s.pos < s'.pos
  · exact hp
  · exfalso
    -- the run never moves backwards, so it would have stopped at `s.pos`, where `accept` succeeds
    obtain ⟨⟨h1, h2⟩, h3⟩ := acceptRun_ind (P := fun u => u.input = s.input ∧ s.pos ≤ u.pos)
      (fun u hu _ => ⟨by rw [(accept_step u cands negate).1, hu.1], Nat.le_trans hu.2 (accept_step u cands negate).2.2⟩)
      ⟨rfl, Nat.le_refl _⟩ h
    rw [accept_snd_congr s' s cands h1 (by omega), ha] at h3; cases h3

/-- a test on the character at `pos` that a newline fails -/
theorem ne_nl_of {a : Scan} {f : Char → Bool} (hf : f '\n' = false) (h : f a.peek = true) : a.peek ≠ '\n' := by
  intro hx; rw [hx, hf] at h; cases h

/-- past a test `c == x || c == y` that failed -/
theorem ne_of_not_beq_or {α : Type} [BEq α] [LawfulBEq α] {c x y : α} (h : ¬ (c == x || c == y) = true) : c ≠ x ∧ c ≠ y := by
  rw [Bool.or_eq_true, beq_iff_eq, beq_iff_eq] at h
  exact ⟨fun e => h (.inl e), fun e => h (.inr e)⟩

theorem peek_ne_nul_lt (s : Scan) (h : s.peek ≠ '\x00') : s.pos < s.input.size := by
  by_cases hlt : s.pos < s.input.size
  · exact hlt
  · exact absurd (peek_eof s hlt) h

theorem acceptRunAux_of_not (cands : List Char) (negate : Bool) (k : Nat) (s : Scan) (h : (s.accept cands negate).2 = false) :
    acceptRunAux cands negate k s = some s := by
  cases k with
  | zero => unfold acceptRunAux; rw [h]; rfl
  | succ k => unfold acceptRunAux; simp only []; rw [h]; rfl

theorem acceptRun_of_not (s : Scan) (cands : List Char) (negate : Bool) (h : (s.accept cands negate).2 = false) :
    s.acceptRun cands negate = .ok s := by
  unfold Scan.acceptRun
  rw [acceptRunAux_of_not cands negate _ s h]

theorem ignore_self (s : Scan) (h : s.start = s.pos) : s.ignore = s := by
  cases s; simp only [Scan.ignore] at *; subst h; rfl

theorem drop_peek (s : Scan) (h : s.pos < s.input.size) :
    s.input.toList.drop s.pos = s.peek :: s.input.toList.drop (s.pos + 1) := by
  have hl : s.pos < s.input.toList.length := by simpa using h
  rw [List.drop_eq_getElem_cons hl, Array.getElem_toList]
  exact congrArg (· :: _) (Option.some.inj (by rw [← peek_eq s h, Array.getElem?_eq_getElem h]))

theorem ok_bind (a : Scan) (f : Scan → SR) : ((Except.ok a : SR) >>= f) = f a := rfl

theorem bind_ok {x : SR} {f : Scan → SR} {b : Scan} (h : x >>= f = .ok b) : ∃ a, x = .ok a ∧ f a = .ok b := by
  cases x with
  | error e => cases h
  | ok a => exact ⟨a, rfl, h⟩

theorem ignoreRun_eq (s : Scan) (c : List Char) : s.ignoreRun c = s.acceptRun c >>= fun u => pure u.ignore := by
  unfold Scan.ignoreRun; cases s.acceptRun c <;> rfl

theorem ignoreRun_ok {s t : Scan} {c : List Char} (h : s.ignoreRun c = .ok t) : ∃ u, s.acceptRun c = .ok u ∧ t = u.ignore := by
  rw [ignoreRun_eq] at h
  obtain ⟨u, hu, ht⟩ := bind_ok h
  exact ⟨u, hu, by cases ht; rfl⟩

theorem ignoreRun_of_not (s : Scan) (cands : List Char) (hst : s.start = s.pos) (h : (s.accept cands).2 = false) :
    s.ignoreRun cands = .ok s := by
  rw [ignoreRun_eq, acceptRun_of_not s cands false h]
  exact congrArg Except.ok (ignore_self s hst)

theorem ignoreRun_returns (s : Scan) (c : List Char) (he : eofAccepts c false = false) : ∃ t, s.ignoreRun c = .ok t := by
  obtain ⟨u, hu, _⟩ := acceptRun_ok s c false he
  exact ⟨u.ignore, by rw [ignoreRun_eq, hu]; rfl⟩

/-- the exception for a text no token starts with: it quotes the pending text up to the end of the input -/
abbrev invalidInput (s : Scan) : Err := s.err ("Invalid Input " ++ s.slice s.start s.input.size)

/-- **the outer loop is bounded**: an iteration of the loop of `Scanner.scan` whose state function returns
    either made progress (consumed input or emitted a token) and the loop continues with one iteration less,
    or (no-progress guard of the second F15 repair) raises — it is never repeated on the same state. -/
theorem scanLoop_progress (cfg : ScanCfg) (st : ScanState) (n : Nat) (s s' : Scan) (h : s.pos < s.input.size)
    (hr : runState cfg st s = .ok s') (hprog : ¬ (s'.pos = s.pos ∧ s'.toks.size = s.toks.size)) :
    scanLoop cfg st (n + 1) s = scanLoop cfg st n s' := by
  simp [scanLoop, h, hr, hprog]

theorem scanLoop_no_progress_raises (cfg : ScanCfg) (st : ScanState) (n : Nat) (s s' : Scan) (h : s.pos < s.input.size)
    (hr : runState cfg st s = .ok s') (hprog : s'.pos = s.pos ∧ s'.toks.size = s.toks.size) :
    scanLoop cfg st (n + 1) s =
      .error (((s'.next).1).err ("Invalid Input " ++ ((s'.next).1).slice ((s'.next).1).start ((s'.next).1).input.size), (s'.next).1) := by
  simp [scanLoop, h, hr, hprog]

theorem scanLoop_eof (cfg : ScanCfg) (st : ScanState) (n : Nat) (s : Scan) (h : ¬ s.pos < s.input.size) :
    scanLoop cfg st n s = .ok s := by
  cases n <;> (unfold scanLoop; rw [if_neg h])

theorem scanLoop_succ (cfg : ScanCfg) (st : ScanState) (n : Nat) (s : Scan) :
    scanLoop cfg st (n + 1) s =
      if s.pos < s.input.size then
        runState cfg st s >>= fun s' =>
          if (s'.pos == s.pos && s'.toks.size == s.toks.size) = true then
            .error (invalidInput (s'.next).1, (s'.next).1)
          else scanLoop cfg st n s'
      else .ok s := by
  conv => lhs; unfold scanLoop
  split
  · cases runState cfg st s <;> rfl
  · rfl

theorem scanLoop_error (cfg : ScanCfg) (st : ScanState) (n : Nat) {s : Scan} {e : Err × Scan} (h : s.pos < s.input.size)
    (hr : runState cfg st s = .error e) : scanLoop cfg st (n + 1) s = .error e := by
  rw [scanLoop_succ, if_pos h, hr]; rfl

theorem scanLoop_ok (cfg : ScanCfg) (st : ScanState) (n : Nat) {s s' : Scan} (h : s.pos < s.input.size)
    (hr : runState cfg st s = .ok s') :
    scanLoop cfg st (n + 1) s =
      if (s'.pos == s.pos && s'.toks.size == s.toks.size) = true then
        .error (invalidInput (s'.next).1, (s'.next).1)
      else scanLoop cfg st n s' := by
  rw [scanLoop_succ, if_pos h, hr, ok_bind]

/-- an invariant `I` of the iterations that continue (it may speak of the fuel that is left) gives `Q` of whatever the
    loop returns -/
theorem scanLoop_rule (cfg : ScanCfg) (st : ScanState) {I : Nat → Scan → Prop} {Q : Except (Err × Scan) Scan → Prop}
    (hfuel : ∀ s, I 0 s → s.pos < s.input.size → Q (.error (.outOfFuel, s))) (hstop : ∀ n s, I n s → Q (.ok s))
    (herr : ∀ n s e, I (n + 1) s → runState cfg st s = .error e → Q (.error e))
    (hstep : ∀ n s s', I (n + 1) s → s.pos < s.input.size → runState cfg st s = .ok s' →
      if (s'.pos == s.pos && s'.toks.size == s.toks.size) = true then
        Q (.error (invalidInput (s'.next).1, (s'.next).1))
      else I n s') : ∀ (n : Nat) (s : Scan), I n s → Q (scanLoop cfg st n s) := by
  intro n
  induction n with
  | zero =>
    intro s hs
    unfold scanLoop
    split
    · exact hfuel s hs ‹_›
    · exact hstop 0 s hs
  | succ n ih =>
    intro s hs
    rw [scanLoop_succ]
    split
    · rename_i hlt
      cases hr : runState cfg st s with
      | error e => exact herr n s e hs hr
      | ok s' =>
        have := hstep n s s' hs hlt hr
        rw [ok_bind]
        split
        · rwa [if_pos ‹_›] at this
        · rw [if_neg ‹_›] at this; exact ih s' this
    · exact hstop _ s hs

end A816.ScanB
