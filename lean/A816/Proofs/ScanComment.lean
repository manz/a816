import A816.Proofs.ScanLocal
/-!
# A comment is one COMMENT token whose text is the comment, whatever it says (helper lemmas for C16)

The two recogniser loops return just behind the closing newline / `*/` having changed neither the tokens nor the token
start (`lineCommentLoop_run`, `blockCommentLoop_run`); `lexInitial_isComment` puts both kinds (`IsComment`) under one
statement.
-/
namespace A816.ScanS
open A816 Scan ScanB ScanT

theorem next_cons {s : Scan} {c : Char} {rest : List Char} (h : s.input.toList.drop s.pos = c :: rest) :
    (s.next).2 = some c ∧ (s.next).1.pos = s.pos + 1 ∧ (s.next).1.input.toList.drop (s.next).1.pos = rest := by
  have hlt := pos_lt_of_drop h
  refine ⟨by rw [next_snd s hlt, peek_of_rest s h]; rfl, next_pos_lt s hlt, ?_⟩
  rw [next_input, next_pos_lt s hlt, ← List.drop_drop, h]
  rfl

theorem acceptPrefix_of_drop {s : Scan} {pre rest : List Char} (h : s.input.toList.drop s.pos = pre ++ rest) (hp : pre ≠ []) :
    s.acceptPrefix pre = ({ s with pos := s.pos + pre.length }, true) := by
  unfold Scan.acceptPrefix
  rw [if_pos ⟨by rw [h, List.take_left], by rw [← Array.length_toList]; exact add_le_of_drop_eq_append h hp⟩]

theorem lineCommentLoop_run (r : List Char) : ∀ (cs : List Char) (n : Nat) (s : Scan),
    s.input.toList.drop s.pos = cs ++ '\n' :: r → (∀ c ∈ cs, c ≠ '\n') → cs.length < n →
    ∃ s', lineCommentLoop n s = .ok s' ∧ s'.input = s.input ∧ s'.pos = s.pos + cs.length + 1 ∧
      s'.toks = s.toks ∧ s'.start = s.start ∧ s'.file = s.file := by
  intro cs
  induction cs with
  | nil =>
    intro n s hd _ hn
    obtain ⟨n, rfl⟩ : ∃ m, n = m + 1 := ⟨n - 1, by omega⟩
    obtain ⟨f1, f2, _⟩ := next_cons hd
    unfold lineCommentLoop
    rw [f1, if_pos (by decide)]
    exact ⟨_, rfl, next_input s, f2, next_toks s, next_start s, next_file s⟩
  | cons c cs ih =>
    intro n s hd hnl hn
    obtain ⟨n, rfl⟩ : ∃ m, n = m + 1 := ⟨n - 1, by omega⟩
    obtain ⟨f1, f2, f3⟩ := next_cons hd
    unfold lineCommentLoop
    rw [f1, if_neg (by simp [hnl c List.mem_cons_self])]
    obtain ⟨s', g1, g2, g3, g4, g5, g6⟩ := ih n (s.next).1 f3 (fun x hx => hnl x (List.mem_cons_of_mem _ hx))
      (by rw [List.length_cons] at hn; omega)
    exact ⟨s', g1, by rw [g2, next_input], by rw [g3, f2, List.length_cons]; omega, by rw [g4, next_toks],
      by rw [g5, next_start], by rw [g6, next_file]⟩

/-- the comment body does not close the comment early: no `*/` starts inside `body` (a `*` that ends the body followed
    by the closing `*/` is fine, as is a body that starts with `/`) -/
def NoClose (body : List Char) : Prop := ∀ i, i < body.length → ((body ++ ['*', '/']).drop i).take 2 ≠ ['*', '/']

theorem NoClose.tail {c : Char} {cs : List Char} (h : NoClose (c :: cs)) : NoClose cs :=
  fun i hi => h (i + 1) (Nat.succ_lt_succ hi)

theorem blockCommentLoop_run (e : Err) (r : List Char) : ∀ (body : List Char) (n : Nat) (s : Scan),
    s.input.toList.drop s.pos = body ++ '*' :: '/' :: r → NoClose body → body.length < n →
    ∃ s', blockCommentLoop e n s = .ok s' ∧ s'.input = s.input ∧ s'.pos = s.pos + body.length + 2 ∧
      s'.toks = s.toks ∧ s'.start = s.start ∧ s'.file = s.file := by
  intro body
  induction body with
  | nil =>
    intro n s hd _ hn
    obtain ⟨n, rfl⟩ : ∃ m, n = m + 1 := ⟨n - 1, by omega⟩
    unfold blockCommentLoop
    rw [acceptPrefix_of_drop (pre := ['*', '/']) hd (List.cons_ne_nil _ _), if_pos rfl]
    exact ⟨_, rfl, rfl, rfl, rfl, rfl, rfl⟩
  | cons c cs ih =>
    intro n s hd hnc hn
    obtain ⟨n, rfl⟩ : ∃ m, n = m + 1 := ⟨n - 1, by omega⟩
    have hacc : s.acceptPrefix ['*', '/'] = (s, false) := by
      unfold Scan.acceptPrefix
      rw [if_neg]
      intro hc
      apply hnc 0 (Nat.succ_pos _)
      have hsplit : (c :: cs) ++ '*' :: '/' :: r = ((c :: cs) ++ ['*', '/']) ++ r :=
        (List.append_assoc (c :: cs) ['*', '/'] r).symm
      rw [hd, hsplit, List.take_append_of_le_length (by rw [List.length_append]; exact Nat.le_add_left ..)] at hc
      exact hc.1
    obtain ⟨f1, f2, f3⟩ := next_cons hd
    unfold blockCommentLoop
    rw [hacc, f1, if_neg Bool.false_ne_true, if_neg (by simp)]
    obtain ⟨s', g1, g2, g3, g4, g5, g6⟩ := ih n (s.next).1 f3 hnc.tail (by rw [List.length_cons] at hn; omega)
    exact ⟨s', g1, by rw [g2, next_input], by rw [g3, f2, List.length_cons]; omega, by rw [g4, next_toks],
      by rw [g5, next_start], by rw [g6, next_file]⟩

/-- the text of a whole comment: `; … ⏎` (no newline inside) or `/* … */` (no `*/` starting inside) -/
inductive IsComment : List Char → Prop
  | line {cs : List Char} (hnl : ∀ c ∈ cs, c ≠ '\n') : IsComment (';' :: (cs ++ ['\n']))
  | block {body : List Char} (hnc : NoClose body) : IsComment ('/' :: '*' :: (body ++ ['*', '/']))

theorem IsComment.ne_nil {c : List Char} (hc : IsComment c) : c ≠ [] := by
  cases hc <;> exact List.cons_ne_nil _ _

/-- **a comment is one COMMENT token whose text is the comment**: at a between-token point in front of `c ++ r`.  Nothing
    inside the comment — quotes, `/*`, braces, mnemonics, for `/* */` also newlines and `;` — is looked at. -/
theorem lexInitial_isComment (cfg : ScanCfg) (s : Scan) {c : List Char} (r : List Char) (hc : IsComment c)
    (hst : s.start = s.pos) (hd : s.input.toList.drop s.pos = c ++ r) :
    ∃ s' t, lexInitial cfg s = .ok s' ∧ s'.input = s.input ∧ s'.pos = s.pos + c.length ∧ s'.start = s'.pos ∧
      s'.toks = s.toks.push t ∧ key t = (.COMMENT, String.ofList c) ∧ s'.file = s.file := by
  -- the branch of the comment runs: its acceptor and its loop move over `c` without emitting, then `emit(COMMENT)` gives
  -- a token with text `c`
  suffices h : ∃ s2 : Scan, lexInitial cfg s = .ok (s2.emit .COMMENT) ∧ s2.input = s.input ∧ s2.pos = s.pos + c.length ∧
      s2.toks = s.toks ∧ s2.start = s.start ∧ s2.file = s.file by
    obtain ⟨s2, h0, h1, h2, h3, h4, h5⟩ := h
    refine ⟨_, ⟨.COMMENT, s2.tokenText, s2.curLine, (s2.start : Int) - s2.lineOffset, s2.file, true⟩, h0, h1, h2, rfl, ?_, ?_, h5⟩
    · show s2.toks.push _ = _
      rw [h3]
    · show (TokTy.COMMENT, s2.tokenText) = _
      unfold Scan.tokenText Scan.slice
      rw [h1, h4, h2, hst, hd, Nat.add_sub_cancel_left, List.take_left]
  have hlen : s.pos + c.length ≤ s.input.size := add_le_of_drop_eq_append hd hc.ne_nil
  cases hc with
  | @line cs hnl =>
    have hd' : s.input.toList.drop s.pos = ';' :: (cs ++ '\n' :: r) := by
      rw [hd, List.cons_append, List.append_assoc]; rfl
    have hl : (';' :: (cs ++ ['\n'])).length = cs.length + 2 := by
      simp only [List.length_cons, List.length_append, List.length_nil]
    rw [hl] at hlen ⊢
    have hp : s.peek = ';' := peek_of_rest s hd'
    obtain ⟨_, f2, f3⟩ := next_cons hd'
    obtain ⟨s2, g1, g2, g3, g4, g5, g6⟩ := lineCommentLoop_run r cs (s.input.size - s.pos + 2) (s.next).1 f3 hnl (by omega)
    refine ⟨s2, ?_, g2.trans (next_input s), by rw [g3, f2]; omega, g4.trans (next_toks s), g5.trans (next_start s),
      g6.trans (next_file s)⟩
    have hacc : Row.lineComment.acc.run s = ((s.next).1, true) := by
      show s.accept [';'] = _
      rw [accept_eq, hp]; rfl
    rw [lexInitial_row cfg s hst (· == ';') (by rw [hp]; rfl) 0 rfl .lineComment rfl (by rw [hacc]), hacc]
    show lineCommentLoop _ _ >>= _ = _
    rw [g1, ok_bind]
    rfl
  | @block body hnc =>
    have hd' : s.input.toList.drop s.pos = ['/', '*'] ++ (body ++ '*' :: '/' :: r) := by
      rw [hd, List.cons_append, List.cons_append, List.append_assoc]; rfl
    have hl : ('/' :: '*' :: (body ++ ['*', '/'])).length = body.length + 4 := by
      simp only [List.length_cons, List.length_append, List.length_nil]
    rw [hl] at hlen ⊢
    have hp : s.peek = '/' := peek_of_rest s hd'
    have hacc : Row.blockComment.acc.run s = ({ s with pos := s.pos + 2 }, true) :=
      acceptPrefix_of_drop hd' (List.cons_ne_nil _ _)
    obtain ⟨s2, g1, g2, g3, g4, g5, g6⟩ := blockCommentLoop_run
      (Scan.err { s with pos := s.pos + 2 } "Unterminated Comment") r body (s.input.size - s.pos + 2) { s with pos := s.pos + 2 }
      (drop_add_of_eq_append hd') hnc (by omega)
    refine ⟨s2, ?_, g2, by rw [g3]; show s.pos + 2 + body.length + 2 = _; omega, g4, g5, g6⟩
    rw [lexInitial_row cfg s hst (· == '/') (by rw [hp]; rfl) 23 (by decide +kernel) .blockComment rfl (by rw [hacc]), hacc]
    show blockCommentLoop _ _ _ >>= _ = _
    rw [g1, ok_bind]
    rfl

/-- **a `;` comment up to its newline is one COMMENT token**: at a between-token point in front of `; cs \n r` -/
theorem lexInitial_comment (cfg : ScanCfg) (s : Scan) (cs r : List Char) (hst : s.start = s.pos)
    (hd : s.input.toList.drop s.pos = ';' :: (cs ++ '\n' :: r)) (hnl : ∀ c ∈ cs, c ≠ '\n') :
    ∃ s' t, lexInitial cfg s = .ok s' ∧ s'.input = s.input ∧ s'.pos = s.pos + cs.length + 2 ∧ s'.start = s'.pos ∧
      s'.toks = s.toks.push t ∧ t.ty = .COMMENT ∧ s'.file = s.file := by
  obtain ⟨s', t, h1, h2, h3, h4, h5, h6, h7⟩ := lexInitial_isComment cfg s r (.line hnl) hst
    (by rw [hd, List.cons_append, List.append_assoc]; rfl)
  exact ⟨s', t, h1, h2, by rw [h3]; simp only [List.length_cons, List.length_append, List.length_nil]; omega, h4, h5,
    congrArg Prod.fst h6, h7⟩

/-- **a `/* … */` comment is one COMMENT token**: at a between-token point in front of `/* body */ r` -/
theorem lexInitial_block_comment (cfg : ScanCfg) (s : Scan) (body r : List Char) (hst : s.start = s.pos)
    (hd : s.input.toList.drop s.pos = '/' :: '*' :: (body ++ '*' :: '/' :: r)) (hnc : NoClose body) :
    ∃ s' t, lexInitial cfg s = .ok s' ∧ s'.input = s.input ∧ s'.pos = s.pos + body.length + 4 ∧ s'.start = s'.pos ∧
      s'.toks = s.toks.push t ∧ t.ty = .COMMENT ∧ s'.file = s.file := by
  obtain ⟨s', t, h1, h2, h3, h4, h5, h6, h7⟩ := lexInitial_isComment cfg s r (.block hnc) hst
    (by rw [hd, List.cons_append, List.cons_append, List.append_assoc]; rfl)
  exact ⟨s', t, h1, h2, by rw [h3]; simp only [List.length_cons, List.length_append, List.length_nil]; omega, h4, h5,
    congrArg Prod.fst h6, h7⟩

/-- the same as steps of the outer loop -/
theorem reach_comment (cfg : ScanCfg) (s : Scan) (cs r : List Char) (hst : s.start = s.pos)
    (hd : s.input.toList.drop s.pos = ';' :: (cs ++ '\n' :: r)) (hnl : ∀ c ∈ cs, c ≠ '\n') :
    ∃ s' t, Reach cfg .initial s s' ∧ s'.input = s.input ∧ s'.pos = s.pos + cs.length + 2 ∧ s'.start = s'.pos ∧
      s'.toks = s.toks.push t ∧ t.ty = .COMMENT ∧ s'.file = s.file := by
  obtain ⟨s', t, h1, h⟩ := lexInitial_comment cfg s cs r hst hd hnl
  exact ⟨s', t, Reach.one h1 (by rw [h.2.1]; omega) (pos_lt_of_drop hd), h⟩

theorem reach_block_comment (cfg : ScanCfg) (s : Scan) (body r : List Char) (hst : s.start = s.pos)
    (hd : s.input.toList.drop s.pos = '/' :: '*' :: (body ++ '*' :: '/' :: r)) (hnc : NoClose body) :
    ∃ s' t, Reach cfg .initial s s' ∧ s'.input = s.input ∧ s'.pos = s.pos + body.length + 4 ∧ s'.start = s'.pos ∧
      s'.toks = s.toks.push t ∧ t.ty = .COMMENT ∧ s'.file = s.file := by
  obtain ⟨s', t, h1, h⟩ := lexInitial_block_comment cfg s body r hst hd hnc
  exact ⟨s', t, Reach.one h1 (by rw [h.2.1]; omega) (pos_lt_of_drop hd), h⟩

end A816.ScanS
