import A816.Proofs.ExprClassify
import A816.Model.Cpu
/-!
# `parse_opcode` reads every operand shape as the addressing-mode decision table says (glue for C01)

C01's theorems are stated over `modeOfSyntax` (the decision logic of `parse_opcode` /
`parse_operand_and_addressing` on the written *shape* of an operand: `#`?, bracket, inner index, outer index).
This file ties that table to the parser model itself: on the tokens that spell a shape around the printout of any
expression tree, `parseOpcode` returns the instruction with exactly the mode and index register `modeOfSyntax`
gives for that shape, the written size suffix, and the expression's node list as operand.
-/
namespace A816.ParseOp
open A816 Spec Classify

def tokAt (st : PState) (i : Nat) : Tok := st.toks.getD i eofTok

/-- what is written at a token position -/
inductive Piece
  | ty (t : TokTy)
  | idx (i : Idx)
  | expr (ns : List ENode)

/-- the tokens from `p` on spell the pieces; the token after the last piece is at `p + pwidth` -/
def Spells (st : PState) : Nat → List Piece → Prop
  | _, [] => True
  | p, .ty t :: r => (tokAt st p).ty = t ∧ Spells st (p + 1) r
  | p, .idx i :: r => (tokAt st p).ty = .ADDRESSING_MODE_INDEX ∧ indexOfTok (tokAt st p) = some i ∧ Spells st (p + 1) r
  | p, .expr ns :: r => Matches st p ns ∧ Spells st (p + ns.length) r

def pwidth : List Piece → Nat
  | [] => 0
  | .ty _ :: r => 1 + pwidth r
  | .idx _ :: r => 1 + pwidth r
  | .expr ns :: r => ns.length + pwidth r

def idxPiece : Option Idx → List Piece
  | none => []
  | some i => [.idx i]

/-- the operand part of an instruction written in shape `syn` around the expression `ns` (without the outer index) -/
def operandPieces (syn : Syntax) (ns : List ENode) : List Piece :=
  if !syn.operand then []
  else if syn.imm then [.ty .SHARP, .expr ns]
  else match syn.bracket with
    | .none => [.expr ns]
    | .paren => [.ty .LPAREN, .expr ns] ++ idxPiece syn.inner ++ [.ty .RPAREN]
    | .square => [.ty .LBRAKET, .expr ns, .ty .RBRAKET]

theorem getD_adv (st : PState) (n : Nat) : (adv st n).toks.getD (adv st n).pos eofTok = tokAt st (st.pos + n) := rfl

theorem pPeek_eq (st : PState) : pPeek st = .ok (tokAt st (st.pos + 1), st) := rfl

theorem printNodes_ne_nil (e : Expr) : printNodes e ≠ [] := by
  cases e <;> simp [printNodes]

theorem adv_getD (st : PState) (k : Nat) : (adv st k).toks.getD (adv st k).pos eofTok = tokAt st (st.pos + k) := rfl

/-- a printed expression starts with a number, a name, an operator or `(`: not with `#`, `[` or the end of the input -/
theorem first_ne {st : PState} {p : Nat} {e : Expr} (hm : Matches st p (printNodes e)) :
    (st.toks.getD p eofTok).ty ≠ .SHARP ∧ (st.toks.getD p eofTok).ty ≠ .LBRAKET ∧ (st.toks.getD p eofTok).ty ≠ .EOF := by
  obtain ⟨n, ns, hn⟩ := List.exists_cons_of_ne_nil (printNodes_ne_nil e)
  have h := (hn ▸ hm).tail.1
  unfold TokIs at h
  split at h
  · rw [h.1]; decide
  · rw [h.1]; decide
  · exact h.elim
  · rw [h.1]; decide
  · rw [h.1]; decide
  · rw [h]; decide
  · rw [h]; decide

/-- a mnemonic standing alone -/
theorem parseOperand_none (cfg : ParseCfg) (fuel : Nat) (mode0 : AddrMode) (opcode : Tok) (st : PState) (p : Nat)
    (hop : opcode.ty ≠ .OPCODE) (h1 : (tokAt st p).ty ≠ .SHARP) (h2 : (tokAt st p).ty ≠ .LPAREN)
    (h3 : (tokAt st p).ty ≠ .LBRAKET) :
    parseOperand cfg (fuel + 1) mode0 opcode { st with pos := p } = .ok ((mode0, none, none), { st with pos := p }) := by
  unfold tokAt at h1 h2 h3
  rw [parseOperand, run_cur, if_neg (mt eq_of_beq h1), if_neg (mt eq_of_beq h2), if_neg (mt eq_of_beq h3),
    if_neg (mt eq_of_beq hop)]
  rfl

/-- the operand width a written suffix stands for -/
def sizeOfSuffix (s : Option String) : Option Nat :=
  match s with
  | some "b" => some 1 | some "w" => some 2 | some "l" => some 3 | _ => none

theorem adv_zero (st : PState) : adv st 0 = st := rfl

/-- `parse_opcode` at position `p` around any result of `parse_operand_and_addressing`: mnemonic, optional size suffix,
    operand, optional outer index register -/
theorem parseOpcode_spec {cfg : ParseCfg} {fuel : Nat} (st : PState) (p ks : Nat) (size : Option String)
    (hsize : (ks = 1 ∧ (tokAt st (p + 1)).ty = .OPCODE_SIZE ∧ size = some (asciiLower (tokAt st (p + 1)).val)) ∨
             (ks = 0 ∧ (tokAt st (p + 1)).ty ≠ .OPCODE_SIZE ∧ size = none))
    (mode1 : AddrMode) (inner : Option Idx) {operand : Option PExpr} (n : Nat)
    (hop : parseOperand cfg fuel (if (tokAt st p).ty == .OPCODE_NAKED then .none else .direct) (tokAt st p)
        { st with pos := p + 1 + ks } = .ok ((mode1, inner, operand), { st with pos := p + 1 + ks + n }))
    (mode2 : AddrMode) (index : Option Idx) (ko : Nat)
    (houter : (ko = 1 ∧ (tokAt st (p + 1 + ks + n)).ty = .ADDRESSING_MODE_INDEX ∧
                 indexOfTok (tokAt st (p + 1 + ks + n)) = index ∧
                 (inner.isSome && !(inner == some Idx.s && index == some Idx.y)) = false ∧
                 alookup mode1 cfg.indexMap = some mode2) ∨
              (ko = 0 ∧ (tokAt st (p + 1 + ks + n)).ty ≠ .ADDRESSING_MODE_INDEX ∧ mode2 = mode1 ∧ index = none)) :
    parseOpcode cfg (fuel + 1) { st with pos := p } =
      .ok (.opcode mode2 (tokAt st p).val (sizeOfSuffix size) operand (index.or inner) (tokAt st p),
        { st with pos := p + 1 + ks + n + ko }) := by
  unfold tokAt at *
  rw [parseOpcode, run_next, run_cur]
  -- what follows the optional size suffix occurs in both branches: it is run once, for any suffix (so that the
  -- closing `rfl` compares the suffix match with `sizeOfSuffix` on a variable)
  generalize hrest : (fun size : Option String => (_ : PM Ast)) = rest
  have hrest : ∀ size, rest size { st with pos := p + 1 + ks } =
      .ok (.opcode mode2 (st.toks.getD p eofTok).val (sizeOfSuffix size) operand (index.or inner)
        (st.toks.getD p eofTok), { st with pos := p + 1 + ks + n + ko }) := by
    intro size
    rw [← hrest]
    dsimp only
    rw [bind_ok hop, run_cur]
    rcases houter with ⟨rfl, h, hidx, hin, hlk⟩ | ⟨rfl, h, rfl, rfl⟩
    · rw [h, if_pos (beq_self_eq_true _), run_next]
      simp only [hidx, hin, Bool.false_eq_true, ↓reduceIte, hlk]
      cases index <;> rfl
    · rw [if_neg (mt eq_of_beq h)]
      rfl
  rcases hsize with ⟨rfl, hs, rfl⟩ | ⟨rfl, hs, rfl⟩
  · rw [hs, if_pos (beq_self_eq_true _), run_next]
    exact hrest _
  · rw [if_neg (mt eq_of_beq hs)]
    exact hrest _

/-- what `modeOfSyntax` decides before it looks at the outer index register -/
def baseOfSyntax (syn : Syntax) : Except Err (AddrMode × Option Idx) := modeOfSyntax [] { syn with outer := none }

theorem modeOfSyntax_split (im : List (AddrMode × AddrMode)) (syn : Syntax) (mode : AddrMode) (idx : Option Idx)
    (h : modeOfSyntax im syn = .ok (mode, idx)) :
    ∃ mode1 inner, baseOfSyntax syn = .ok (mode1, inner) ∧
      match syn.outer with
      | none => mode = mode1 ∧ idx = inner
      | some o => (inner.isSome && !(inner == some Idx.s && some o == some Idx.y)) = false ∧ alookup mode1 im = some mode ∧ idx = some o := by
  unfold baseOfSyntax
  unfold modeOfSyntax at h ⊢
  dsimp only at h ⊢
  split at h
  · cases h
  · next mode1 inner hb =>
    refine ⟨mode1, inner, by rw [hb], ?_⟩
    cases ho : syn.outer with
    | none => rw [ho] at h; cases h; exact ⟨rfl, rfl⟩
    | some o =>
      rw [ho] at h
      dsimp only at h ⊢
      split at h
      · cases h
      · next hc =>
        split at h
        · cases h
        · next m' hl =>
          cases h
          refine ⟨?_, hl, rfl⟩
          simpa using hc

/-- every operand shape the decision table accepts is read by `parse_operand_and_addressing` as the table says -/
theorem operand_of_shape (cfg : ParseCfg) (syn : Syntax) (e : Expr) (fuel : Nat) (opcode : Tok) (st : PState) (p : Nat)
    (hoperand : syn.operand = true) (hopc : opcode.ty = .OPCODE)
    (mode1 : AddrMode) (inner : Option Idx) (hbase : baseOfSyntax syn = .ok (mode1, inner))
    (hsp : Spells st p (operandPieces syn (printNodes e)))
    (hfollow : (tokAt st (p + pwidth (operandPieces syn (printNodes e)))).ty ≠ .OPERATOR)
    (hplain : syn.imm = false → syn.bracket = .none → (tokAt st p).ty ≠ .LPAREN)
    (hfuel : (printNodes e).length < fuel) :
    ∃ first, parseOperand cfg (fuel + 1) .direct opcode { st with pos := p } =
      .ok ((mode1, inner, some ⟨printNodes e, first⟩),
        { st with pos := p + pwidth (operandPieces syn (printNodes e)) }) := by
  obtain ⟨operand, imm, bracket, sinner, outer⟩ := syn
  simp only [tokAt] at hoperand hplain
  subst hoperand
  rw [parseOperand, run_cur]
  cases imm with
  | true =>
    -- `#expr`
    cases sinner <;> cases bracket <;> simp [baseOfSyntax, modeOfSyntax] at hbase
    obtain ⟨rfl, rfl⟩ := hbase
    simp only [operandPieces, Bool.not_true, Bool.false_eq_true, ↓reduceIte, Spells, pwidth, tokAt, Nat.add_zero,
      ← Nat.add_assoc] at hsp hfollow ⊢
    obtain ⟨h0, hm, _⟩ := hsp
    rw [h0, if_pos (beq_self_eq_true _), run_next, run_cur,
      if_neg (mt eq_of_beq (first_ne hm).2.2), bind_ok (parseExpr_at cfg e fuel st _ hm hfuel hfollow)]
    exact ⟨_, rfl⟩
  | false =>
    cases bracket with
    | none =>
      cases sinner <;> simp [baseOfSyntax, modeOfSyntax] at hbase
      obtain ⟨rfl, rfl⟩ := hbase
      simp only [operandPieces, Bool.not_true, Bool.false_eq_true, ↓reduceIte, Spells, pwidth, tokAt,
        Nat.add_zero] at hsp hfollow ⊢
      obtain ⟨hm, _⟩ := hsp
      obtain ⟨h1, h2, _⟩ := first_ne hm
      rw [if_neg (mt eq_of_beq h1), if_neg (mt eq_of_beq (hplain rfl rfl)), if_neg (mt eq_of_beq h2), hopc,
        if_pos (beq_self_eq_true _), bind_ok (parseExpr_at cfg e fuel st _ hm hfuel hfollow)]
      exact ⟨_, rfl⟩
    | square =>
      cases sinner <;> simp [baseOfSyntax, modeOfSyntax] at hbase
      obtain ⟨rfl, rfl⟩ := hbase
      simp only [operandPieces, Bool.not_true, Bool.false_eq_true, ↓reduceIte, Spells, pwidth, tokAt, Nat.add_zero,
        ← Nat.add_assoc] at hsp hfollow ⊢
      obtain ⟨h0, hm, hr, _⟩ := hsp
      rw [h0, if_neg (by decide), if_neg (by decide),
        if_pos (beq_self_eq_true _), run_next, bind_ok (parseExpr_at cfg e fuel st _ hm hfuel (by rw [hr]; decide)),
        run_next, run_expect hr]
      exact ⟨_, rfl⟩
    | paren =>
      -- `(expr)`, `(expr,x)`: up to the look-ahead behind `)`, which finds no operator
      cases sinner with
      | none =>
        simp [baseOfSyntax, modeOfSyntax] at hbase
        obtain ⟨rfl, rfl⟩ := hbase
        simp only [operandPieces, idxPiece, List.cons_append, List.nil_append, Bool.not_true, Bool.false_eq_true, ↓reduceIte,
          Spells, pwidth, tokAt, Nat.add_zero, ← Nat.add_assoc] at hsp hfollow ⊢
        obtain ⟨h0, hm, hr, _⟩ := hsp
        rw [h0, if_neg (by decide), if_pos (beq_self_eq_true _), run_get,
          run_next, bind_ok (parseExpr_at cfg e fuel st _ hm hfuel (by rw [hr]; decide)), run_cur,
          hr, if_neg (by decide), pure_bind]
        dsimp only
        rw [run_cur, run_expect hr, run_peek, if_neg (mt eq_of_beq hfollow), run_next]
        exact ⟨_, rfl⟩
      | some i =>
        simp [baseOfSyntax, modeOfSyntax] at hbase
        obtain ⟨rfl, rfl⟩ := hbase
        simp only [operandPieces, idxPiece, List.cons_append, List.nil_append, Bool.not_true, Bool.false_eq_true, ↓reduceIte,
          Spells, pwidth, tokAt, Nat.add_zero, ← Nat.add_assoc] at hsp hfollow ⊢
        obtain ⟨h0, hm, hi, hiv, hr, _⟩ := hsp
        rw [h0, if_neg (by decide), if_pos (beq_self_eq_true _), run_get,
          run_next, bind_ok (parseExpr_at cfg e fuel st _ hm hfuel (by rw [hi]; decide)), run_cur,
          hi, if_pos (beq_self_eq_true _), run_next, pure_bind]
        dsimp only
        rw [run_cur, run_expect hr, run_peek, if_neg (mt eq_of_beq hfollow), run_next,
          hiv]
        exact ⟨_, rfl⟩

theorem pwidth_append (a b : List Piece) : pwidth (a ++ b) = pwidth a + pwidth b := by
  induction a with
  | nil => simp [pwidth]
  | cons x xs ih => cases x <;> simp [pwidth, ih] <;> omega

theorem Spells.append {st : PState} : ∀ {p : Nat} {a b : List Piece}, Spells st p (a ++ b) →
    Spells st p a ∧ Spells st (p + pwidth a) b := by
  intro p a
  induction a generalizing p with
  | nil => intro b h; exact ⟨trivial, by simpa [pwidth] using h⟩
  | cons x xs ih =>
    intro b h
    cases x <;> simp only [List.cons_append, Spells, pwidth, ← Nat.add_assoc] at h ⊢
    · exact ⟨⟨h.1, (ih h.2).1⟩, (ih h.2).2⟩
    · exact ⟨⟨h.1, h.2.1, (ih h.2.2).1⟩, (ih h.2.2).2⟩
    · exact ⟨⟨h.1, (ih h.2).1⟩, (ih h.2).2⟩

/-- **the parser reads every accepted operand shape as the decision table says**: on the tokens
    `mnemonic [.size] <shape around the printout of e> [,index]`, `parse_opcode` returns the instruction with the
    addressing mode and index register `modeOfSyntax` gives for the shape, the written size, and `e`'s nodes. -/
theorem parseOpcode_shape (cfg : ParseCfg) (syn : Syntax) (e : Expr) (fuel : Nat) (st : PState)
    (ks : Nat) (size : Option String)
    (hopc : (tokAt st st.pos).ty = .OPCODE) (hoperand : syn.operand = true)
    (hsize : (ks = 1 ∧ (tokAt st (st.pos + 1)).ty = .OPCODE_SIZE ∧ size = some (asciiLower (tokAt st (st.pos + 1)).val)) ∨
             (ks = 0 ∧ (tokAt st (st.pos + 1)).ty ≠ .OPCODE_SIZE ∧ size = none))
    (hsp : Spells st (st.pos + (1 + ks)) (operandPieces syn (printNodes e) ++ idxPiece syn.outer))
    (hfollow : (tokAt st (st.pos + (1 + ks) + pwidth (operandPieces syn (printNodes e) ++ idxPiece syn.outer))).ty ≠ .OPERATOR)
    (hnoidx : syn.outer = none →
      (tokAt st (st.pos + (1 + ks) + pwidth (operandPieces syn (printNodes e)))).ty ≠ .ADDRESSING_MODE_INDEX)
    (hplain : syn.imm = false → syn.bracket = .none → (tokAt st (st.pos + (1 + ks))).ty ≠ .LPAREN)
    (hfuel : (printNodes e).length + 1 < fuel)
    (mode : AddrMode) (idx : Option Idx) (hmode : modeOfSyntax cfg.indexMap syn = .ok (mode, idx)) :
    ∃ first, parseOpcode cfg (fuel + 1) st =
      .ok (.opcode mode (tokAt st st.pos).val (sizeOfSuffix size) (some ⟨printNodes e, first⟩) idx (tokAt st st.pos),
           adv st (1 + ks + pwidth (operandPieces syn (printNodes e) ++ idxPiece syn.outer))) := by
  obtain ⟨mode1, inner, hbase, hout⟩ := modeOfSyntax_split cfg.indexMap syn mode idx hmode
  obtain ⟨fuel, rfl⟩ : ∃ f, fuel = f + 1 := ⟨fuel - 1, by omega⟩
  simp only [pwidth_append, ← Nat.add_assoc] at hsp hfollow hnoidx hplain ⊢
  obtain ⟨hsp1, hsp2⟩ := Spells.append hsp
  -- the token after the operand pieces is not an operator
  have hafter : (tokAt st (st.pos + 1 + ks + pwidth (operandPieces syn (printNodes e)))).ty ≠ .OPERATOR := by
    cases ho : syn.outer with
    | none => simpa only [ho, idxPiece, pwidth, Nat.add_zero] using hfollow
    | some o =>
      simp only [ho, idxPiece, Spells] at hsp2
      rw [hsp2.1]; decide
  obtain ⟨first, hop⟩ := operand_of_shape cfg syn e fuel (tokAt st st.pos) st _ hoperand hopc mode1 inner hbase hsp1 hafter
    hplain (by omega)
  have key := parseOpcode_spec st st.pos ks size hsize mode1 inner _ (by rw [hopc]; exact hop)
  refine ⟨first, ?_⟩
  cases ho : syn.outer with
  | none =>
    simp only [ho] at hout
    obtain ⟨rfl, rfl⟩ := hout
    exact (key mode none 0 (.inr ⟨rfl, hnoidx ho, rfl, rfl⟩)).trans (ok_at st _ (by simp only [idxPiece, pwidth]; omega))
  | some o =>
    simp only [ho] at hout
    obtain ⟨hin, hlk, rfl⟩ := hout
    simp only [ho, idxPiece, Spells] at hsp2
    exact (key mode (some o) 1 (.inl ⟨rfl, hsp2.1, hsp2.2.1, hin, hlk⟩)).trans
      (ok_at st _ (by simp only [idxPiece, pwidth]; omega))

end A816.ParseOp
