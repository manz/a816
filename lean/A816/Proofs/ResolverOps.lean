import A816.Model.Nodes
/-!
# Association lists, the scope array, and what each resolver operation returns

The passes touch the resolver through `add_symbol`, `add_label`, `use_next_scope`, `restore_scope` and `set_position`.
Each operation gets one equation that names the resolver afterwards; what an invariant needs of it then holds by `rfl`
on the fields.
-/
namespace A816

section alist
variable {β : Type _}

theorem alookup_ainsert_self {k : String} {v : β} {l : List (String × β)} : alookup k (ainsert k v l) = some v := by
  induction l with
  | nil => simp [ainsert, alookup]
  | cons a rest ih =>
    by_cases h : (a.1 == k) = true
    · simp [ainsert, alookup, h]
    · simpa [ainsert, alookup, h] using ih

theorem alookup_ainsert_ne {k k' : String} (h : k' ≠ k) {v : β} {l : List (String × β)} :
    alookup k' (ainsert k v l) = alookup k' l := by
  have hk : (k == k') = false := beq_false_of_ne fun e => h e.symm
  induction l with
  | nil => simp [ainsert, alookup, hk]
  | cons a rest ih =>
    by_cases ha : (a.1 == k) = true
    · have : a.1 = k := eq_of_beq ha
      simp [ainsert, alookup, ha, this ▸ hk]
    · simp only [ainsert, ha, Bool.false_eq_true, ↓reduceIte, alookup, ih]

theorem alookup_ainsert_congr (k : String) (v : β) {l l' : List (String × β)} {n : String}
    (h : alookup n l = alookup n l') : alookup n (ainsert k v l) = alookup n (ainsert k v l') := by
  by_cases hnk : n = k
  · subst hnk; rw [alookup_ainsert_self, alookup_ainsert_self]
  · rw [alookup_ainsert_ne hnk, alookup_ainsert_ne hnk, h]

theorem alookup_isSome_iff (k : String) (l : List (String × β)) : (alookup k l).isSome = true ↔ k ∈ l.map Prod.fst := by
  induction l with
  | nil => simp [alookup]
  | cons a rest ih =>
    obtain ⟨ka, va⟩ := a
    simp only [alookup, List.map_cons, List.mem_cons]
    by_cases hk : (ka == k) = true
    · have : ka = k := eq_of_beq hk
      simp [this]
    · have : ¬ k = ka := fun e => hk (by simp [e])
      simp only [hk, Bool.false_eq_true, ↓reduceIte, ih, this, false_or]

theorem keys_ainsert (k : String) (v : β) (l : List (String × β)) :
    (ainsert k v l).map Prod.fst = if (alookup k l).isSome then l.map Prod.fst else l.map Prod.fst ++ [k] := by
  induction l with
  | nil => simp [ainsert, alookup]
  | cons a rest ih =>
    obtain ⟨ka, va⟩ := a
    simp only [ainsert, alookup]
    by_cases hk : (ka == k) = true
    · simp [hk]
    · simp only [hk, Bool.false_eq_true, ↓reduceIte, List.map_cons, ih]
      split <;> simp

end alist

namespace Unrel

/-- the keys of an association list are pairwise different (dict semantics: `ainsert` replaces in place) -/
def NodupKeys {β} (l : List (String × β)) : Prop := (l.map Prod.fst).Nodup

theorem nodup_ainsert {β} {k : String} {v : β} {l : List (String × β)} (h : NodupKeys l) : NodupKeys (ainsert k v l) := by
  unfold NodupKeys at h ⊢
  rw [keys_ainsert]
  split
  · exact h
  · rename_i hn
    have : k ∉ l.map Prod.fst := fun hm => hn ((alookup_isSome_iff k l).mpr hm)
    exact List.nodup_append.mpr ⟨h, by simp, fun a ha b hb => by
      simp only [List.mem_singleton] at hb; subst hb; intro e; subst e; exact this ha⟩

theorem dotted_inj (a k1 k2 : String) (h : a ++ "." ++ k1 = a ++ "." ++ k2) : k1 = k2 := by
  have := congrArg String.toList h
  simp only [String.toList_append, List.append_assoc] at this
  exact String.toList_inj.mp (List.append_cancel_left (List.append_cancel_left this))

/-- `restore_scope(exports=True)`: the symbols of the scope that is left, written under qualified keys -/
def exportFold (name : String) (src acc : List (String × Int)) : List (String × Int) :=
  src.foldl (fun acc (kv : String × Int) => ainsert (name ++ "." ++ kv.1) kv.2 acc) acc

theorem exportFold_cons (name : String) (kv : String × Int) (l acc : List (String × Int)) :
    exportFold name (kv :: l) acc = exportFold name l (ainsert (name ++ "." ++ kv.1) kv.2 acc) := rfl

theorem exportFold_other (name m : String) : ∀ (l acc : List (String × Int)),
    (∀ k ∈ l.map Prod.fst, name ++ "." ++ k ≠ m) → alookup m (exportFold name l acc) = alookup m acc := by
  intro l
  induction l with
  | nil => intro acc _; rfl
  | cons kv rest ih =>
    intro acc h
    rw [exportFold_cons, ih _ (fun k hk => h k (List.mem_cons_of_mem _ hk))]
    exact alookup_ainsert_ne fun e => h kv.1 List.mem_cons_self e.symm

theorem exportFold_hit (name : String) : ∀ (l acc : List (String × Int)) (k : String) (v : Int), NodupKeys l →
    alookup k l = some v → alookup (name ++ "." ++ k) (exportFold name l acc) = some v := by
  intro l
  induction l with
  | nil => intro acc k v _ h; simp [alookup] at h
  | cons kv rest ih =>
    intro acc k v hn h
    obtain ⟨k0, v0⟩ := kv
    unfold NodupKeys at hn
    simp only [List.map_cons, List.nodup_cons] at hn
    rw [exportFold_cons]
    simp only [alookup] at h
    by_cases hk : (k0 == k) = true
    · have e : k0 = k := eq_of_beq hk
      simp only [hk, ↓reduceIte, Option.some.injEq] at h
      subst e; subst h
      rw [exportFold_other name (name ++ "." ++ k0) rest _
        (fun k' hk' e' => hn.1 (by rw [dotted_inj name k' k0 e'] at hk'; exact hk'))]
      exact alookup_ainsert_self
    · simp only [hk, Bool.false_eq_true, ↓reduceIte] at h
      exact ih _ k v hn.2 h

theorem nodup_exportFold (name : String) : ∀ (l acc : List (String × Int)), NodupKeys acc → NodupKeys (exportFold name l acc) := by
  intro l
  induction l with
  | nil => intro acc h; exact h
  | cons kv rest ih => intro acc h; exact ih _ (nodup_ainsert h)

end Unrel

theorem getD_modify (a : Array ScopeRec) (p k : Nat) (f : ScopeRec → ScopeRec) :
    (a.modify p f).getD k default = if p = k ∧ k < a.size then f (a.getD k default) else a.getD k default := by
  simp only [Array.getD_eq_getD_getElem?, Array.getElem?_modify]
  by_cases hpk : p = k
  · subst hpk
    by_cases hlt : p < a.size <;> simp [hlt]
  · simp [hpk]

theorem getD_push (a : Array ScopeRec) (x : ScopeRec) (i : Nat) :
    (a.push x).getD i default = if i = a.size then x else a.getD i default := by
  simp only [Array.getD_eq_getD_getElem?, Array.getElem?_push]
  by_cases hi : i = a.size
  · simp [hi]
  · by_cases hlt : i < a.size
    · simp [hi]
    · simp [hi, Array.getElem?_eq_none (by omega : a.size ≤ i)]

namespace Resolver

theorem scopeAt_lt (r : Resolver) {k : Nat} (hk : k < r.scopes.size) : r.scopeAt k = r.scopes[k] := by
  unfold scopeAt; rw [Array.getD_eq_getD_getElem?, Array.getElem?_eq_getElem hk]; rfl

theorem modifyCur_size (r : Resolver) (f) : (r.modifyCur f).scopes.size = r.scopes.size := by
  simp [modifyCur]

theorem scopeAt_modifyCur (r : Resolver) (f : ScopeRec → ScopeRec) (k : Nat) :
    (r.modifyCur f).scopeAt k = if r.current = k ∧ k < r.scopes.size then f (r.scopeAt k) else r.scopeAt k :=
  getD_modify r.scopes r.current k f

theorem cur_modifyCur (r : Resolver) (f : ScopeRec → ScopeRec) (h : r.current < r.scopes.size) :
    (r.modifyCur f).cur = f r.cur := by
  show (r.modifyCur f).scopeAt r.current = _
  rw [scopeAt_modifyCur, if_pos ⟨rfl, h⟩]; rfl

/-- `Scope.value_for` answers from the current scope when that has no parent or defines the name — whatever the rest of
    the scope array looks like -/
theorem valueFor_cur (r : Resolver) (name : String)
    (h : r.cur.parent = none ∨ ((alookup name r.cur.symbols).isSome || (alookup name r.cur.codeSymbols).isSome) = true) :
    r.valueFor name = getItem r.cur name := by
  unfold valueFor valueForAux
  rw [show r.scopes.getD r.current default = r.cur from rfl]
  cases hp : r.cur.parent with
  | none => rfl
  | some p =>
    rcases h with h | h
    · rw [hp] at h; cases h
    · simp only [h, ↓reduceIte]

theorem useNextScope_some {r r' : Resolver} (h : r.useNextScope = some r') :
    r.lastUsed + 1 < r.scopes.size ∧ r' = { r with lastUsed := r.lastUsed + 1, current := r.lastUsed + 1 } := by
  unfold useNextScope at h
  split at h
  · rename_i hlt; cases h; exact ⟨hlt, rfl⟩
  · cases h

/-- the scope array after `restore_scope(ex)` into the parent `p`: a named scope that is left with exports writes its
    symbols, qualified, into the `symbols` of `p` -/
def leftScopes (r : Resolver) (ex : Bool) (p : Nat) : Array ScopeRec :=
  match ex, r.cur.kind with
  | true, .named name => r.scopes.modify p fun ps => { ps with symbols := Unrel.exportFold name r.cur.symbols ps.symbols }
  | _, _ => r.scopes

theorem restoreScope_eq (r : Resolver) (ex : Bool) :
    r.restoreScope ex = r.cur.parent.map fun p => { r with scopes := r.leftScopes ex p, current := p } := by
  unfold restoreScope leftScopes Unrel.exportFold
  simp only []
  cases r.cur.parent with
  | none => rfl
  | some p => cases ex <;> cases r.cur.kind <;> rfl

theorem restoreScope_some {r r' : Resolver} {ex : Bool} (h : r.restoreScope ex = some r') :
    ∃ p, r.cur.parent = some p ∧ r' = { r with scopes := r.leftScopes ex p, current := p } := by
  obtain ⟨p, hp, rfl⟩ := Option.map_eq_some_iff.mp (restoreScope_eq r ex ▸ h)
  exact ⟨p, hp, rfl⟩

theorem leftScopes_size (r : Resolver) (ex : Bool) (p : Nat) : (r.leftScopes ex p).size = r.scopes.size := by
  unfold leftScopes; split <;> simp

/-- leaving a scope changes at most the `symbols` of the parent -/
theorem leftScopes_getD (r : Resolver) (ex : Bool) (p k : Nat) :
    ∃ syms, (r.leftScopes ex p).getD k default = { r.scopes.getD k default with symbols := syms } ∧
      (syms = (r.scopes.getD k default).symbols ∨
        ∃ name, r.cur.kind = .named name ∧ ex = true ∧ p = k ∧
          syms = Unrel.exportFold name r.cur.symbols (r.scopes.getD k default).symbols) := by
  unfold leftScopes
  split
  · rename_i name hk
    rw [getD_modify]
    split
    · rename_i hc; exact ⟨_, rfl, Or.inr ⟨name, hk, rfl, hc.1, rfl⟩⟩
    · exact ⟨_, rfl, Or.inl rfl⟩
  · exact ⟨_, rfl, Or.inl rfl⟩

theorem setPosition_some {r r' : Resolver} {v : Int} (h : r.setPosition v = some r') :
    ∃ bus a, r.getBus = some bus ∧ Address.mk? bus v = some a ∧
      r' = { r with pc := a.physical.getD r.pc, reloc := a } := by
  unfold setPosition at h
  cases hb : r.getBus with
  | none => simp [hb] at h
  | some bus =>
    cases ha : Address.mk? bus v with
    | none => simp [hb, ha] at h
    | some a =>
      simp only [hb, ha, Option.some.injEq] at h
      refine ⟨bus, a, rfl, ha, ?_⟩
      rw [← h]; cases a.physical <;> rfl

end Resolver
end A816
