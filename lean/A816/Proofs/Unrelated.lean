import A816.Proofs.ResolverOps
/-!
# An unrelated definition changes no lookup and no expression value (helper lemmas for C08)

* the shunting yard only moves nodes: every node of the queue it builds is a node of the expression (`shuntingYard_mem`);
* evaluation uses the lookup function only on the identifiers of the expression (`evalTokens_congr`);
* adding a symbol or a label `z` to any scope changes the lookup of no other name, from any scope (`valueFor_withSymbol`, `valueFor_withLabel`, both `valueForAux_modify`).
-/
namespace A816.Unrel
open A816 Resolver

theorem popWhile_mem {prec : PrecTable} {p : Nat} {stack out o s : List ENode}
    (h : popWhile prec p out stack = .ok (o, s)) : ∀ x ∈ o ++ s, x ∈ out ++ stack := by
  intro x hx
  fun_induction popWhile prec p out stack with
  | case1 out => cases h; exact hx
  | case2 out top rest hp => cases h; exact hx
  | case3 => cases h
  | case4 out top rest hp q hq hle ih =>
    have := ih h
    rwa [List.append_assoc] at this
  | case5 => cases h; exact hx

theorem popToParen_mem {stack out o s : List ENode} (h : popToParen out stack = some (o, s)) :
    ∀ x ∈ o ++ s, x ∈ out ++ stack := by
  intro x hx
  fun_induction popToParen out stack with
  | case1 => cases h
  | case2 out top rest hp =>
    cases h
    rcases List.mem_append.mp hx with h1 | h1
    · exact List.mem_append_left _ h1
    · exact List.mem_append_right _ (List.mem_cons_of_mem _ h1)
  | case3 out top rest hp ih =>
    have := ih h
    rwa [List.append_assoc] at this

theorem syStep_mem {prec : PrecTable} {st st' : List ENode × List ENode} {n : ENode}
    (h : syStep prec st n = .ok st') : ∀ x ∈ st'.1 ++ st'.2, x ∈ st.1 ++ st.2 ∨ x = n := by
  intro x hx
  cases n with
  | term _ _ | unop _ | lparen =>
    simp only [syStep, Except.ok.injEq] at h; subst h
    simp only [List.append_assoc, List.cons_append, List.nil_append, List.mem_append, List.mem_cons] at hx ⊢
    rcases hx with h1 | h1 | h1
    · exact Or.inl (Or.inl h1)
    · exact Or.inr h1
    · exact Or.inl (Or.inr h1)
  | binop v =>
    simp only [syStep] at h
    cases hpv : prec v with
    | none => simp [hpv] at h
    | some p =>
      simp only [hpv] at h
      cases hpw : popWhile prec p st.1 st.2 with
      | error e => simp [hpw] at h
      | ok os =>
        obtain ⟨out, stack⟩ := os
        simp only [hpw, Except.ok.injEq] at h; subst h
        simp only [List.mem_append, List.mem_cons] at hx
        rcases hx with h1 | h1 | h1
        · exact Or.inl (popWhile_mem hpw x (List.mem_append_left _ h1))
        · exact Or.inr h1
        · exact Or.inl (popWhile_mem hpw x (List.mem_append_right _ h1))
  | rparen =>
    simp only [syStep] at h
    split at h
    · cases h
    · rename_i r hp
      simp only [Except.ok.injEq] at h; subst h
      obtain ⟨o, s⟩ := r
      exact Or.inl (popToParen_mem hp x hx)

theorem syRun_mem {prec : PrecTable} {ts : List ENode} {st st' : List ENode × List ENode}
    (h : syRun prec st ts = .ok st') : ∀ x ∈ st'.1 ++ st'.2, x ∈ st.1 ++ st.2 ∨ x ∈ ts := by
  intro x hx
  fun_induction syRun prec st ts with
  | case1 st => cases h; exact .inl hx
  | case2 => cases h
  | case3 st n ns st1 hs ih =>
    rcases ih h with h1 | h1
    · exact (syStep_mem hs x h1).imp id fun (e : x = n) => e ▸ List.mem_cons_self
    · exact .inr (List.mem_cons_of_mem _ h1)

theorem shuntingYard_mem (prec : PrecTable) (ts q : List ENode) (h : shuntingYard prec ts = .ok q) :
    ∀ x ∈ q, x ∈ ts := by
  unfold shuntingYard at h
  cases hr : syRun prec ([], []) ts with
  | error e => simp [hr] at h
  | ok st =>
    obtain ⟨out, stack⟩ := st
    simp only [hr, Except.ok.injEq] at h
    subst h
    intro x hx
    rcases syRun_mem hr x hx with h1 | h1
    · cases h1
    · exact h1

theorem applyNode_congr {look look' : String → Look} (vs : List Int) {n : ENode}
    (h : ∀ v, n = .term .identifier v → look v = look' v) : applyNode look vs n = applyNode look' vs n := by
  cases n with
  | term k v =>
    cases k with
    | identifier => simp only [applyNode]; rw [h v rfl]
    | _ => rfl
  | _ => rfl

theorem rpnRun_congr {look look' : String → Look} {q : List ENode} (vs : List Int)
    (h : ∀ v, ENode.term .identifier v ∈ q → look v = look' v) : rpnRun look vs q = rpnRun look' vs q := by
  fun_induction rpnRun look vs q with
  | case1 => rfl
  | case2 vs n ns e he =>
    rw [rpnRun, ← applyNode_congr vs (fun v hv => h v (hv ▸ List.mem_cons_self)), he]
  | case3 vs n ns vs' he ih =>
    rw [rpnRun, ← applyNode_congr vs (fun v hv => h v (hv ▸ List.mem_cons_self)), he]
    exact ih fun v hv => h v (List.mem_cons_of_mem _ hv)

theorem evalTokens_congr (prec : PrecTable) (look look' : String → Look) (ts : List ENode)
    (h : ∀ v, ENode.term .identifier v ∈ ts → look v = look' v) :
    evalTokens prec look ts = evalTokens prec look' ts := by
  unfold evalTokens
  cases hq : shuntingYard prec ts with
  | error e => rfl
  | ok q =>
    simp only []
    unfold evalRPN
    rw [rpnRun_congr [] (fun v hv => h v (shuntingYard_mem prec ts q hq _ hv))]

/-- the resolver with one more integer symbol `z` in scope `k` (`Scope.add_symbol` done there) -/
def withSymbol (r : Resolver) (k : Nat) (z : String) (v : Int) : Resolver :=
  { r with scopes := r.scopes.modify k fun s => { s with symbols := ainsert z v s.symbols } }

/-- … with one more label (`Scope.add_label`: the labels and the symbols of the scope) -/
def withLabel (r : Resolver) (k : Nat) (z : String) (v : Int) : Resolver :=
  { r with scopes := r.scopes.modify k fun s => { s with labels := ainsert z v s.labels, symbols := ainsert z v s.symbols } }

/-- scopes that differ only in the entries of their `symbols` for the names in `Z` -/
def SameBut (Z : String → Prop) (a b : ScopeRec) : Prop :=
  a.parent = b.parent ∧ a.codeSymbols = b.codeSymbols ∧ ∀ n, ¬ Z n → alookup n a.symbols = alookup n b.symbols

theorem valueForAux_sameBut (Z : String → Prop) (n : String) (hn : ¬ Z n) (s s' : Array ScopeRec)
    (h : ∀ i, SameBut Z (s.getD i default) (s'.getD i default)) :
    ∀ (fuel i : Nat), valueForAux s n fuel i = valueForAux s' n fuel i := by
  intro fuel
  induction fuel with
  | zero => intro i; rfl
  | succ f ih =>
    intro i
    unfold valueForAux getItem
    have hi := h i
    rw [hi.1, hi.2.1, hi.2.2 n hn]
    split
    · rw [ih]
    · rfl

/-- rewriting entries of `symbols` for names in `Z`, in any scope, changes the lookup of no other name, from any scope -/
theorem valueForAux_modify (Z : String → Prop) (s : Array ScopeRec) (k : Nat) (f : ScopeRec → ScopeRec)
    (hf : ∀ a, SameBut Z (f a) a) (n : String) (hn : ¬ Z n) (from_ : Nat) :
    valueForAux (s.modify k f) n ((s.modify k f).size + 1) from_ = valueForAux s n (s.size + 1) from_ := by
  rw [Array.size_modify]
  refine valueForAux_sameBut Z n hn _ _ (fun i => ?_) _ _
  rw [getD_modify]
  split
  · exact hf _
  · exact ⟨rfl, rfl, fun _ _ => rfl⟩

theorem valueFor_withSymbol (r : Resolver) (k : Nat) (z : String) (v : Int) (n : String) (hn : n ≠ z) (from_ : Nat) :
    valueForAux (withSymbol r k z v).scopes n ((withSymbol r k z v).scopes.size + 1) from_ =
      valueForAux r.scopes n (r.scopes.size + 1) from_ :=
  valueForAux_modify (· = z) r.scopes k (fun s => { s with symbols := ainsert z v s.symbols })
    (fun _ => ⟨rfl, rfl, fun _ hm => alookup_ainsert_ne hm⟩) n hn from_

theorem valueFor_withLabel (r : Resolver) (k : Nat) (z : String) (v : Int) (n : String) (hn : n ≠ z) (from_ : Nat) :
    valueForAux (withLabel r k z v).scopes n ((withLabel r k z v).scopes.size + 1) from_ =
      valueForAux r.scopes n (r.scopes.size + 1) from_ :=
  valueForAux_modify (· = z) r.scopes k (fun s => { s with labels := ainsert z v s.labels, symbols := ainsert z v s.symbols })
    (fun _ => ⟨rfl, rfl, fun _ hm => alookup_ainsert_ne hm⟩) n hn from_

end A816.Unrel
