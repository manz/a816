import A816.Proofs.NodeSteps
/-! Helper lemmas about the emission loop (`Program.emit`): what one step does to the state.  One iteration is taken in three
    stages: the node's `emit`, the bytes appended (`stepF`), the flush at `*=` and the blocks of an included patch (`postF`). -/
namespace A816

/-- flattened (offset, byte) list of a block -/
def placed (off : Int) : List Nat → List (Int × Nat)
  | [] => []
  | b :: bs => (off, b) :: placed (off + 1) bs

/-- the `write_block` calls laid out byte by byte -/
def flatW : List (Int × List Nat) → List (Int × Nat)
  | [] => []
  | (a, d) :: rest => placed a d ++ flatW rest

/-- the trace laid out byte by byte: each record's bytes from its storage offset on -/
def traceFlat : List TraceRec → List (Int × Nat)
  | [] => []
  | t :: rest => placed t.storage t.bytes ++ traceFlat rest

theorem placed_append (off : Int) (a b : List Nat) : placed off (a ++ b) = placed off a ++ placed (off + a.length) b := by
  induction a generalizing off with
  | nil => simp [placed]
  | cons x xs ih =>
    simp only [List.cons_append, placed, ih, List.length_cons, List.cons.injEq, true_and]
    congr 2; omega

theorem flatW_append (a b : List (Int × List Nat)) : flatW (a ++ b) = flatW a ++ flatW b := by
  induction a with
  | nil => rfl
  | cons x xs ih => obtain ⟨o, d⟩ := x; simp [flatW, ih]

theorem traceFlat_append (a b : List TraceRec) : traceFlat (a ++ b) = traceFlat a ++ traceFlat b := by
  induction a with
  | nil => rfl
  | cons x xs ih => simp [traceFlat, ih]

theorem placed_nil (off : Int) : placed off [] = [] := rfl

/-- the bytes written so far, pending block included, are the trace laid out at the storage offsets -/
def WritesInv (st : EmitState) : Prop :=
  flatW (st.own ++ [(st.blockAddr, st.block)]) = traceFlat st.trace

/-- the middle of `emitStep`: the node's bytes are appended to the pending block and the addresses advance -/
def stepF (st : EmitState) (r1 : Resolver) (bs : List Nat) : Except Err EmitState :=
  let rec0 : TraceRec := ⟨st.r.reloc.logical, st.blockAddr + st.block.length, bs⟩
  if bs.isEmpty then .ok { st with r := r1, trace := st.trace ++ [rec0] }
  else
    match addrAdd r1.reloc bs.length with
    | .error e => .error e
    | .ok a' =>
      .ok { st with r := { r1 with pc := r1.pc + bs.length, reloc := a' },
                    block := st.block ++ bs, trace := st.trace ++ [rec0] }

/-- the state after flushing at a `*=` -/
def flushed (n : Node) (s : EmitState) : EmitState :=
  if n.isCodePos then
    if s.block.isEmpty then { s with blockAddr := s.r.pc, block := [] }
    else { s with writes := s.writes ++ [(s.blockAddr, s.block)], own := s.own ++ [(s.blockAddr, s.block)], blockAddr := s.r.pc, block := [] }
  else s

/-- the `write_block` calls an included patch adds -/
def included : Node → List (Int × List Nat)
  | .includeIps b => b
  | _ => []

def addWrites (w : List (Int × List Nat)) (s : EmitState) : EmitState := { s with writes := s.writes ++ w }

/-- the end of `emitStep`: a `*=` flushes the pending block, an included patch is handed to the writer -/
def postF (n : Node) (s : EmitState) : EmitState := addWrites (included n) (flushed n s)

theorem emitStep_eq (env : Env) (n : Node) (st : EmitState) :
    emitStep env n st = (emitNode env n st.r).bind fun p => (stepF st p.1 p.2).bind fun s => .ok (postF n s) := by
  unfold emitStep
  cases emitNode env n st.r with
  | error e => rfl
  | ok p =>
    show (match stepF st p.1 p.2 with | .error e => Except.error e | .ok s1 => _) = (stepF st p.1 p.2).bind _
    cases stepF st p.1 p.2 with
    | error e => rfl
    | ok s1 => cases n <;> simp only [postF, addWrites, included, List.append_nil] <;> rfl

theorem flushed_r (n : Node) (s : EmitState) : (flushed n s).r = s.r := by
  unfold flushed; repeat' split
  all_goals rfl

theorem flushed_trace (n : Node) (s : EmitState) : (flushed n s).trace = s.trace := by
  unfold flushed; repeat' split
  all_goals rfl

theorem stepF_ok {st s1 : EmitState} {r1 : Resolver} {bs : List Nat} (h : stepF st r1 bs = .ok s1) :
    ∃ r2, s1 = { st with r := r2, block := st.block ++ bs, trace := st.trace ++ [⟨st.r.reloc.logical, st.blockAddr + st.block.length, bs⟩] } ∧
      (bs = [] → r2 = r1) ∧
      (bs ≠ [] → ∃ a', r1.reloc.add bs.length = some a' ∧ r2 = { r1 with pc := r1.pc + bs.length, reloc := a' }) := by
  unfold stepF at h
  cases bs with
  | nil => cases h; exact ⟨r1, by simp, fun _ => rfl, fun h => absurd rfl h⟩
  | cons b t =>
    simp only [List.isEmpty_cons, Bool.false_eq_true, ↓reduceIte, addrAdd] at h
    cases ha : r1.reloc.add (b :: t).length with
    | none => rw [ha] at h; cases h
    | some a' =>
      rw [ha] at h; cases h
      exact ⟨_, rfl, (fun h => nomatch h), fun _ => ⟨a', rfl, rfl⟩⟩

/-- what one returning iteration of the loop did: `r1`, `bs` are what the node's `emit` returned -/
structure Stepped (env : Env) (n : Node) (st st' : EmitState) (r1 : Resolver) (bs : List Nat) : Prop where
  emit : emitNode env n st.r = .ok (r1, bs)
  trace : st'.trace = st.trace ++ [⟨st.r.reloc.logical, st.blockAddr + st.block.length, bs⟩]
  same : bs = [] → st'.r = r1
  moved : bs ≠ [] → ∃ a', r1.reloc.add bs.length = some a' ∧ st'.r = { r1 with pc := r1.pc + bs.length, reloc := a' }
  kept : n.isCodePos = false → st'.block = st.block ++ bs ∧ st'.blockAddr = st.blockAddr ∧ st'.own = st.own
  flush : n.isCodePos = true → st'.block = [] ∧ st'.blockAddr = st'.r.pc ∧
    st'.own = if (st.block ++ bs).isEmpty then st.own else st.own ++ [(st.blockAddr, st.block ++ bs)]

theorem emitStep_spec {env : Env} {n : Node} {st st' : EmitState} (h : emitStep env n st = .ok st') :
    ∃ r1 bs, Stepped env n st st' r1 bs := by
  rw [emitStep_eq] at h
  obtain ⟨⟨r1, bs⟩, he, h⟩ := Except.bind_ok h
  obtain ⟨s1, hs, hp⟩ := Except.bind_ok h
  obtain ⟨r2, rfl, h1, h2⟩ := stepF_ok hs
  cases hp
  refine ⟨r1, bs, he, flushed_trace _ _, fun e => (flushed_r _ _).trans (h1 e), fun e => ?_, fun hc => ?_, fun hc => ?_⟩
  · obtain ⟨a', ha, e2⟩ := h2 e; exact ⟨a', ha, (flushed_r _ _).trans e2⟩
  · simp only [postF, addWrites, flushed, hc, Bool.false_eq_true, ↓reduceIte, and_self]
  · simp only [postF, addWrites, flushed, hc, ↓reduceIte]
    split <;> exact ⟨rfl, rfl, rfl⟩

theorem emitStep_writesInv {env : Env} {n : Node} {st st' : EmitState} (h : emitStep env n st = .ok st')
    (hinv : WritesInv st) : WritesInv st' := by
  obtain ⟨r1, bs, o⟩ := emitStep_spec h
  unfold WritesInv at *
  rw [o.trace, traceFlat_append, ← hinv]
  simp only [traceFlat, List.append_nil]
  cases hcp : n.isCodePos with
  | false =>
    obtain ⟨hb, ha, ho⟩ := o.kept hcp
    rw [hb, ha, ho, flatW_append, flatW_append]
    simp only [flatW, List.append_nil, placed_append, List.append_assoc]
  | true =>
    obtain ⟨hb, _, ho⟩ := o.flush hcp
    rw [hb, ho, flatW_append, flatW_append]
    by_cases hem : (st.block ++ bs).isEmpty = true
    · have : st.block ++ bs = [] := by simpa using hem
      have h1 : st.block = [] := (List.append_eq_nil_iff.mp this).1
      have h2 : bs = [] := (List.append_eq_nil_iff.mp this).2
      simp [flatW, placed, h1, h2]
    · simp only [hem, Bool.false_eq_true, ↓reduceIte, flatW_append, flatW, List.append_nil, placed_append, placed_nil,
        List.append_assoc]

theorem emitLoop_writesInv {env : Env} {nodes : List Node} {st st' : EmitState}
    (h : emitLoop env nodes st = .ok st') (hi : WritesInv st) : WritesInv st' := by
  fun_induction emitLoop env nodes st with
  | case1 st => cases h; exact hi
  | case2 => cases h
  | case3 n ns st s1 hs ih => exact ih h (emitStep_writesInv hs hi)

theorem emitLoop_cons (env : Env) (n : Node) (ns : List Node) (s : EmitState) :
    emitLoop env (n :: ns) s = (emitStep env n s).bind (emitLoop env ns) := by
  rw [emitLoop]; cases emitStep env n s <;> rfl

theorem emitLoop_append (env : Env) (a b : List Node) (st : EmitState) :
    emitLoop env (a ++ b) st = (emitLoop env a st).bind fun s => emitLoop env b s := by
  fun_induction emitLoop env a st with
  | case1 => rfl
  | case2 n ns st e he => simp only [List.cons_append, emitLoop, he, Except.bind]
  | case3 n ns st s1 he ih => simpa only [List.cons_append, emitLoop, he] using ih

theorem emitLoop_split {env : Env} {pre : List Node} {n : Node} {post : List Node} {st st' : EmitState}
    (h : emitLoop env (pre ++ n :: post) st = .ok st') :
    ∃ s1 s2, emitLoop env pre st = .ok s1 ∧ emitStep env n s1 = .ok s2 ∧ emitLoop env post s2 = .ok st' := by
  rw [emitLoop_append] at h
  obtain ⟨s1, h1, h⟩ := Except.bind_ok h
  rw [emitLoop_cons] at h
  obtain ⟨s2, h2, h3⟩ := Except.bind_ok h
  exact ⟨s1, s2, h1, h2, h3⟩

end A816
