import A816.Proofs.ExprPrint
/-! `eval_number` reads back every rendered literal (decimal, `0x` in
either letter case, `0b`). -/
namespace A816
open Spec

theorem digitVal_digitChar_fin : ∀ (d : Fin 16) (u : Bool), digitVal (digitChar d.val u) = some d.val := by decide
theorem digitChar_dec_ne_fin : ∀ (d : Fin 10) (u : Bool), digitChar d.val u ≠ 'x' ∧ digitChar d.val u ≠ 'b' := by decide

theorem digitVal_digitChar (d : Nat) (u : Bool) (h : d < 16) : digitVal (digitChar d u) = some d :=
  digitVal_digitChar_fin ⟨d, h⟩ u
theorem digitChar_dec_ne (d : Nat) (u : Bool) (h : d < 10) : digitChar d u ≠ 'x' ∧ digitChar d u ≠ 'b' :=
  digitChar_dec_ne_fin ⟨d, h⟩ u

theorem parseDigits_render (base : Nat) (hb : base ≤ 16) (ds : List (Nat × Bool)) (acc : Nat)
    (h : ∀ d ∈ ds, d.1 < base) :
    parseDigits base (ds.map fun d => digitChar d.1 d.2) acc
      = some (ds.foldl (fun acc d => acc * base + d.1) acc) := by
  induction ds generalizing acc with
  | nil => simp [parseDigits]
  | cons d ds ih =>
    have hd : d.1 < base := h d (by simp)
    simp only [List.map_cons, parseDigits, digitVal_digitChar d.1 d.2 (by omega), hd, ↓reduceIte,
      List.foldl_cons]
    exact ih _ (fun x hx => h x (List.mem_cons_of_mem _ hx))

theorem evalNumberChars_render (l : Literal) (wf : l.WF) : evalNumberChars l.render = some l.value := by
  obtain ⟨hne, hd⟩ := wf
  have hmap : (l.digits.map fun d => digitChar d.1 d.2) ≠ [] := by simpa using hne
  unfold Literal.render Literal.value
  cases hb : l.base with
  | hex | bin =>
    simp only [hb, Base.radix] at hd
    have hx : ¬ (['0', 'b'] = ['0', 'x']) := by decide
    simp only [evalNumberChars, Base.pre, Base.radix, List.cons_append, List.nil_append, List.take_succ_cons,
      List.take_zero, hx, ↓reduceIte, List.drop_succ_cons, List.drop_zero, List.isEmpty_iff, hmap]
    exact parseDigits_render _ (by omega) _ _ hd
  | dec =>
    simp only [hb, Base.radix] at hd
    simp only [Base.pre, Base.radix, List.nil_append]
    have key : ∀ c : Char, c = 'x' ∨ c = 'b' →
        (l.digits.map fun d => digitChar d.1 d.2).take 2 ≠ ['0', c] := by
      intro c hc heq
      match hds : l.digits with
      | [] => simp [hds] at heq
      | [_] => simp [hds] at heq
      | d1 :: d2 :: rest =>
        simp only [hds, List.map_cons, List.take_succ_cons, List.take_zero, List.cons.injEq, and_true] at heq
        have := digitChar_dec_ne d2.1 d2.2 (hd d2 (by simp [hds]))
        rcases hc with hc | hc <;> simp_all
    unfold evalNumberChars
    simp only [key 'x' (Or.inl rfl), key 'b' (Or.inr rfl), ↓reduceIte, List.isEmpty_iff, hmap]
    exact parseDigits_render 10 (by omega) _ _ hd

theorem evalNumber_render (l : Literal) (wf : l.WF) :
    evalNumber (String.ofList l.render) = some (l.value : Int) := by
  unfold evalNumber
  rw [String.toList_ofList, evalNumberChars_render l wf]
  rfl

end A816
