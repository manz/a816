import A816.Model.Expr
import A816.Spec.Expr
/-! The two-phase algorithm of `eval_expression` (shunting-yard to a queue, then queue evaluation) against a fused machine.
Queue evaluation is a left fold (`rpnRun_append`), so the fused machine (`fstep`, `frun`) can keep the value stack of the
queue built so far in place of the queue; where it succeeds, the two-phase algorithm succeeds with the same value (`fuse`).
What the fused machine makes of the printout of a tree is `Proofs/ExprMain`. -/
namespace A816
open Spec

theorem rpnRun_append (look : String → Look) (vs : List Int) (a b : List ENode) :
    rpnRun look vs (a ++ b) =
      match rpnRun look vs a with
      | .error e => .error e
      | .ok vs' => rpnRun look vs' b := by
  induction a generalizing vs with
  | nil => simp [rpnRun]
  | cons n ns ih =>
    simp only [List.cons_append, rpnRun]
    cases applyNode look vs n with
    | error e => rfl
    | ok vs' => exact ih vs'

theorem rpnRun_snoc {look : String → Look} {out : List ENode} {vs : List Int} (h : rpnRun look [] out = .ok vs) (n : ENode) :
    rpnRun look [] (out ++ [n]) = applyNode look vs n := by
  rw [rpnRun_append, h]
  simp only [rpnRun]
  cases applyNode look vs n <;> rfl

theorem rpnRun_cons_ok {look : String → Look} {ws ws' : List Int} {top : ENode} {rest : List ENode}
    (h : rpnRun look ws (top :: rest) = .ok ws') :
    ∃ ws1, applyNode look ws top = .ok ws1 ∧ rpnRun look ws1 rest = .ok ws' := by
  rw [rpnRun] at h
  split at h
  · cases h
  · exact ⟨_, ‹_›, h⟩

/-- `popWhile` on the fused state: the operators of rank at most `p` on top of the stack are applied to the value stack -/
def fpop (look : String → Look) (prec : PrecTable) (p : Nat) :
    List Int → List ENode → Except Err (List Int × List ENode)
  | vs, [] => .ok (vs, [])
  | vs, top :: rest =>
    if top.text == "(" then .ok (vs, top :: rest)
    else match stackPrec prec top with
      | none => .error .key
      | some q =>
        if q ≤ p then
          match applyNode look vs top with
          | .error e => .error e
          | .ok vs' => fpop look prec p vs' rest
        else .ok (vs, top :: rest)

/-- `popToParen` on the fused state: the operators down to the nearest `(` are applied, the `(` is dropped -/
def fpopParen (look : String → Look) : List Int → List ENode → Except Err (List Int × List ENode)
  | _, [] => .error .value
  | vs, top :: rest =>
    if top.text == "(" then .ok (vs, rest)
    else match applyNode look vs top with
      | .error e => .error e
      | .ok vs' => fpopParen look vs' rest

/-- `syStep` on the fused state (value stack of the queue built so far, operator stack) -/
def fstep (look : String → Look) (prec : PrecTable) (st : List Int × List ENode) (n : ENode) :
    Except Err (List Int × List ENode) :=
  match n with
  | .term _ _ =>
    match applyNode look st.1 n with
    | .error e => .error e
    | .ok vs => .ok (vs, st.2)
  | .unop _ => .ok (st.1, n :: st.2)
  | .binop v =>
    match prec v with
    | none => .error .key
    | some p =>
      match fpop look prec p st.1 st.2 with
      | .error e => .error e
      | .ok (vs, stack) => .ok (vs, n :: stack)
  | .lparen => .ok (st.1, n :: st.2)
  | .rparen => fpopParen look st.1 st.2

/-- `syRun` on the fused state -/
def frun (look : String → Look) (prec : PrecTable) :
    List Int × List ENode → List ENode → Except Err (List Int × List ENode)
  | st, [] => .ok st
  | st, n :: ns =>
    match fstep look prec st n with
    | .error e => .error e
    | .ok st' => frun look prec st' ns

theorem frun_append (look : String → Look) (prec : PrecTable) (st : List Int × List ENode) (a b : List ENode) :
    frun look prec st (a ++ b) =
      match frun look prec st a with
      | .error e => .error e
      | .ok st' => frun look prec st' b := by
  induction a generalizing st with
  | nil => simp [frun]
  | cons n ns ih =>
    simp only [List.cons_append, frun]
    cases fstep look prec st n with
    | error e => rfl
    | ok st' => exact ih st'

theorem popWhile_sim (look : String → Look) (prec : PrecTable) (p : Nat) (vs : List Int) (stack : List ENode) :
    ∀ (out : List ENode) (vs' : List Int) (stack' : List ENode),
      fpop look prec p vs stack = .ok (vs', stack') → rpnRun look [] out = .ok vs →
      ∃ out', popWhile prec p out stack = .ok (out', stack') ∧ rpnRun look [] out' = .ok vs' := by
  fun_induction fpop look prec p vs stack with
  | case1 vs => intro out _ _ h hr; cases h; exact ⟨out, rfl, hr⟩
  | case2 vs top rest hpar => intro out _ _ h hr; cases h; exact ⟨out, by rw [popWhile, if_pos hpar], hr⟩
  | case3 => intro _ _ _ h; cases h
  | case4 => intro _ _ _ h; cases h
  | case5 vs top rest hpar q hsp hq vs1 ha ih =>
    intro out vs' stack' h hr
    rw [popWhile, if_neg hpar, hsp]; simp only [if_pos hq]
    exact ih _ vs' stack' h ((rpnRun_snoc hr top).trans ha)
  | case6 vs top rest hpar q hsp hq =>
    intro out _ _ h hr; cases h
    exact ⟨out, by rw [popWhile, if_neg hpar, hsp]; simp only [if_neg hq], hr⟩

theorem popToParen_sim (look : String → Look) (vs : List Int) (stack : List ENode) :
    ∀ (out : List ENode) (vs' : List Int) (stack' : List ENode),
      fpopParen look vs stack = .ok (vs', stack') → rpnRun look [] out = .ok vs →
      ∃ out', popToParen out stack = some (out', stack') ∧ rpnRun look [] out' = .ok vs' := by
  fun_induction fpopParen look vs stack with
  | case1 => intro _ _ _ h; cases h
  | case2 vs top rest hpar => intro out _ _ h hr; cases h; exact ⟨out, by rw [popToParen, if_pos hpar], hr⟩
  | case3 => intro _ _ _ h; cases h
  | case4 vs top rest hpar vs1 ha ih =>
    intro out vs' stack' h hr
    rw [popToParen, if_neg hpar]
    exact ih _ vs' stack' h ((rpnRun_snoc hr top).trans ha)

theorem syStep_sim (look : String → Look) (prec : PrecTable) (n : ENode)
    (vs : List Int) (stack out : List ENode) (vs' : List Int) (stack' : List ENode)
    (h : fstep look prec (vs, stack) n = .ok (vs', stack')) (hr : rpnRun look [] out = .ok vs) :
    ∃ out', syStep prec (out, stack) n = .ok (out', stack') ∧ rpnRun look [] out' = .ok vs' := by
  unfold fstep at h
  unfold syStep
  split at h
  · split at h
    · cases h
    · next ha => cases h; exact ⟨_, rfl, (rpnRun_snoc hr _).trans ha⟩
  · cases h; exact ⟨out, rfl, hr⟩
  · split at h
    · cases h
    · next p hp =>
      split at h
      · cases h
      · next vs1 st1 hf =>
        obtain ⟨out', h1, h2⟩ := popWhile_sim look prec p vs stack out vs1 st1 hf hr
        cases h
        exact ⟨out', by simp only [hp, h1], h2⟩
  · cases h; exact ⟨out, rfl, hr⟩
  · obtain ⟨out', h1, h2⟩ := popToParen_sim look vs stack out vs' stack' h hr
    exact ⟨out', by simp only [h1], h2⟩

theorem syRun_sim (look : String → Look) (prec : PrecTable) (ts : List ENode) :
    ∀ (vs : List Int) (stack out : List ENode) (vs' : List Int) (stack' : List ENode),
      frun look prec (vs, stack) ts = .ok (vs', stack') → rpnRun look [] out = .ok vs →
      ∃ out', syRun prec (out, stack) ts = .ok (out', stack') ∧ rpnRun look [] out' = .ok vs' := by
  induction ts with
  | nil => intro vs stack out vs' stack' h hr; cases h; exact ⟨out, rfl, hr⟩
  | cons n ns ih =>
    intro vs stack out vs' stack' h hr
    rw [frun] at h
    split at h
    · cases h
    · next st1 hs =>
      obtain ⟨out1, h1, h2⟩ := syStep_sim look prec n vs stack out st1.1 st1.2 hs hr
      obtain ⟨out', h3, h4⟩ := ih st1.1 st1.2 out1 vs' stack' h h2
      exact ⟨out', by rw [syRun, h1]; exact h3, h4⟩

/-- **fuse**: if the fused machine accepts the token list and flushing its stack leaves `v` on top,
    then `eval_expression` (queue construction, then queue evaluation) returns `v`. -/
theorem fuse (look : String → Look) (prec : PrecTable) (ts : List ENode)
    (vs : List Int) (stack : List ENode) (v : Int) (rest : List Int)
    (h : frun look prec ([], []) ts = .ok (vs, stack))
    (hflush : rpnRun look vs stack = .ok (v :: rest)) :
    evalTokens prec look ts = .ok v := by
  obtain ⟨out, h1, h2⟩ := syRun_sim look prec ts [] [] [] vs stack h (by simp [rpnRun])
  unfold evalTokens shuntingYard
  simp only [h1]
  unfold evalRPN
  rw [rpnRun_append, h2]
  simp only [hflush]

end A816
