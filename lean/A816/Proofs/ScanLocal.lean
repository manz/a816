import A816.Proofs.ScanTotal
import A816.Proofs.ScanSim
import A816.Proofs.ListFacts
/-!
# From similar states to whole scans (helper lemmas for C16 and C06)

The result of `Scanner.scan` is the result of finishing its loop from any state the loop passes through at the head of an
iteration (`Reach`, `scan_of_reach`), whatever fuel is left (`scanLoop_fuel`), and similar loop results give similar scan
results (`finish_rel`).  Leading blanks do not matter at a between-token state: `ignore_run` skips them as `dropWhile` does
(`ignoreRun_dropWhile`), and the loop goes on from behind them as if it had been started there (`scanLoop_skip_blanks`;
`lexExpressionLoop_skip_spaces` for the loop of `lex_expression`).
-/
namespace A816.ScanS
open A816 Scan ScanB ScanT

theorem scanLoop_fuel (cfg : ScanCfg) (st : ScanState) : ∀ (n m : Nat) (s : Scan), s.input.size - s.pos < n →
    s.input.size - s.pos < m → scanLoop cfg st n s = scanLoop cfg st m s := by
  intro n
  induction n with
  | zero => intro m s h; omega
  | succ n ih =>
    intro m s hn hm
    obtain ⟨m, rfl⟩ : ∃ k, m = k + 1 := ⟨m - 1, by omega⟩
    by_cases hlt : s.pos < s.input.size
    · cases hr : runState cfg st s with
      | error er => rw [scanLoop_error cfg st n hlt hr, scanLoop_error cfg st m hlt hr]
      | ok s1 =>
        rw [scanLoop_ok cfg st n hlt hr, scanLoop_ok cfg st m hlt hr]
        split
        · rfl
        · obtain ⟨hi, hp⟩ := runState_lt hr ‹_›
          exact ih m s1 (by rw [hi]; omega) (by rw [hi]; omega)
    · rw [scanLoop_eof cfg st _ s hlt, scanLoop_eof cfg st _ s hlt]

/-- `s'` is at the head of a later iteration of the outer loop started in `s` -/
inductive Reach (cfg : ScanCfg) (st : ScanState) : Scan → Scan → Prop
  | refl (s : Scan) : Reach cfg st s s
  | step {s s1 s' : Scan} : s.pos < s.input.size → runState cfg st s = .ok s1 →
      ¬ (s1.pos == s.pos && s1.toks.size == s.toks.size) = true → Reach cfg st s1 s' → Reach cfg st s s'

theorem Reach.input {cfg : ScanCfg} {st : ScanState} {s s' : Scan} (h : Reach cfg st s s') : s'.input = s.input := by
  induction h with
  | refl s => rfl
  | step _ hr hg _ ih => exact ih.trans (runState_lt hr hg).1

theorem Reach.trans {cfg : ScanCfg} {st : ScanState} {a b c : Scan} (h1 : Reach cfg st a b) (h2 : Reach cfg st b c) :
    Reach cfg st a c := by
  induction h1 with
  | refl _ => exact h2
  | step hlt hr hg _ ih => exact Reach.step hlt hr hg (ih h2)

/-- one iteration of the outer loop that consumes input -/
theorem Reach.one {cfg : ScanCfg} {st : ScanState} {s s1 : Scan} (h : runState cfg st s = .ok s1) (hlt : s.pos < s1.pos)
    (hsz : s.pos < s.input.size) : Reach cfg st s s1 :=
  Reach.step hsz h (by rw [Bool.and_eq_true, beq_iff_eq]; omega) (Reach.refl _)

theorem scanLoop_reach {cfg : ScanCfg} {st : ScanState} {s s' : Scan} (h : Reach cfg st s s') :
    ∀ (n m : Nat), s.input.size - s.pos < n → s'.input.size - s'.pos < m →
      scanLoop cfg st n s = scanLoop cfg st m s' := by
  induction h with
  | refl s => exact fun n m => scanLoop_fuel cfg st n m s
  | @step s s1 s' hlt hr hg _ ih =>
    intro n m hn hm
    obtain ⟨n, rfl⟩ : ∃ k, n = k + 1 := ⟨n - 1, by omega⟩
    obtain ⟨hi, hp⟩ := runState_lt hr hg
    rw [scanLoop_ok cfg st n hlt hr, if_neg hg]
    exact ih n m (by rw [hi]; omega) hm

/-- the scan, finished from any state its loop passes through -/
theorem scan_of_reach (cfg : ScanCfg) (st : ScanState) (file : Nat) (input : List Char) (s : Scan)
    (h : Reach cfg st (initState file input) s) :
    scan cfg st file input = finish (scanLoop cfg st (s.input.size - s.pos + 1) s) := by
  rw [scan_eq_finish]
  congr 1
  exact scanLoop_reach h _ _ (by simp [initState]) (by omega)

/-- similar scan results: the tokens after the first `ka` / `kb` have the same types and texts, and the error (if any)
    is the same up to its position -/
def ResRel (ka kb : Nat) (r1 r2 : ScanResult) : Prop :=
  TokRel ka kb r1.toks r2.toks ∧ r1.error.map errKey = r2.error.map errKey

variable {A B ka kb : Nat}

theorem finish_rel {r1 r2 : Except (Err × Scan) Scan} (h : RelR A B ka kb r1 r2) : ResRel ka kb (finish r1) (finish r2) := by
  cases r1 with
  | ok a =>
    cases r2 with
    | error e2 => exact (h : False).elim
    | ok b =>
      have hs : Sim A B ka kb a b := h
      exact ⟨by rw [(finish_ok a).1, (finish_ok b).1]; exact (hs.emit .EOF).toks, rfl⟩
  | error e1 =>
    cases r2 with
    | ok b => exact (h : False).elim
    | error e2 =>
      have h' : errKey e1.1 = errKey e2.1 ∧ TokRel ka kb e1.2.toks e2.2.toks := h
      exact ⟨by rw [(finish_error e1.1 e1.2).1, (finish_error e2.1 e2.2).1]; exact h'.2,
        by rw [(finish_error e1.1 e1.2).2, (finish_error e2.1 e2.2).2]; exact congrArg some h'.1⟩

theorem acceptRun_eof (s : Scan) (h : ¬ s.pos < s.input.size) (cands : List Char) (negate : Bool)
    (he : eofAccepts cands negate = false) : s.acceptRun cands negate = .ok s :=
  acceptRun_of_not s cands negate ((accept_eof s cands negate h).trans he)

theorem acceptRun_stops (s s' : Scan) (cands : List Char) (negate : Bool) (h : s.acceptRun cands negate = .ok s') :
    (s'.accept cands negate).2 = false :=
  (acceptRun_ind (P := fun _ => True) (fun _ _ _ => trivial) trivial h).2

theorem ignoreRun_idem {s t : Scan} {cands : List Char} (h : s.ignoreRun cands = .ok t) :
    t.ignoreRun cands = .ok t ∧ t.start = t.pos := by
  obtain ⟨u, hu, rfl⟩ := ignoreRun_ok h
  exact ⟨ignoreRun_of_not _ cands rfl
    ((accept_snd_congr u.ignore u cands rfl rfl).trans (acceptRun_stops s u cands false hu)), rfl⟩

theorem ignoreRun_eq_or_lt {s t : Scan} {cands : List Char} (he : eofAccepts cands false = false) (hst : s.start = s.pos)
    (hr : s.ignoreRun cands = .ok t) : t = s ∨ (s.pos < t.pos ∧ s.pos < s.input.size) := by
  cases ha : (s.accept cands).2 with
  | false => rw [ignoreRun_of_not s cands hst ha] at hr; cases hr; exact .inl rfl
  | true =>
    obtain ⟨u, hu, rfl⟩ := ignoreRun_ok hr
    exact .inr ⟨acceptRun_lt (s' := u) ha hu,
      Decidable.byContradiction fun h => by rw [accept_eof s cands false h, he] at ha; cases ha⟩

theorem lexInitial_eof (cfg : ScanCfg) (t : Scan) (h : ¬ t.pos < t.input.size) (hst : t.start = t.pos) :
    lexInitial cfg t = .ok t := by
  rw [lexInitial_eq, ignoreRun_of_not t _ hst ((accept_eof t _ false h).trans he_ws), ok_bind,
    dispatch_none t _ fun q _ => acc_eof q.acc q.acc_wf t h, initDefault_eq, if_neg h]

/-- `lex_initial` first skips blanks, tabs and newlines: it does the same from the point behind them -/
theorem lexInitial_skip (cfg : ScanCfg) {s t : Scan} (h : s.ignoreRun [' ', '\t', '\n'] = .ok t) :
    lexInitial cfg s = lexInitial cfg t := by
  rw [lexInitial_eq, lexInitial_eq, h, (ignoreRun_idem h).1]

/-- **blanks and newlines in front of the position are skipped without any other effect**: at the head of an iteration
    of the initial state (between tokens: `start = pos`), finishing the scan from `s` and from the state `t` reached by
    skipping the blanks gives the same result -/
theorem scanLoop_skip_blanks (cfg : ScanCfg) (s t : Scan) (hst : s.start = s.pos)
    (hr : s.ignoreRun [' ', '\t', '\n'] = .ok t) : ∀ (n m : Nat), s.input.size - s.pos < n → t.input.size - t.pos < m →
    scanLoop cfg .initial n s = scanLoop cfg .initial m t := by
  intro n m hn hm
  rcases ignoreRun_eq_or_lt he_ws hst hr with rfl | ⟨hlt, hs⟩
  · exact scanLoop_fuel cfg .initial n m t hn hm
  -- a blank is skipped: the iteration from `s` is the iteration from `t`, and the no-progress guard does not stop it
  obtain ⟨n, rfl⟩ : ∃ k, n = k + 1 := ⟨n - 1, by omega⟩
  have hrs : runState cfg .initial s = lexInitial cfg t := lexInitial_skip cfg hr
  have hin : t.input = s.input := ((safe_ignoreRun s _ he_ws).of_ok hr).input
  by_cases ht : t.pos < t.input.size
  · obtain ⟨m, rfl⟩ : ∃ k, m = k + 1 := ⟨m - 1, by omega⟩
    cases hl : lexInitial cfg t with
    | error e => rw [scanLoop_error cfg .initial n hs (hrs.trans hl), scanLoop_error cfg .initial m ht hl]
    | ok s' =>
      obtain ⟨hi, hpos⟩ := lexInitial_lt hl ht
      rw [scanLoop_ok cfg .initial n hs (hrs.trans hl), scanLoop_ok cfg .initial m ht hl,
          if_neg (by rw [Bool.and_eq_true, beq_iff_eq]; omega), if_neg (by rw [Bool.and_eq_true, beq_iff_eq]; omega)]
      exact scanLoop_fuel cfg .initial n m s' (by rw [hi, hin]; omega) (by rw [hi]; omega)
  · rw [scanLoop_ok cfg .initial n hs (hrs.trans (lexInitial_eof cfg t ht (ignoreRun_idem hr).2)),
        if_neg (by rw [Bool.and_eq_true, beq_iff_eq]; omega), scanLoop_eof cfg .initial m t ht]
    exact scanLoop_eof cfg .initial n t ht

theorem pos_lt_of_drop {s : Scan} {c : Char} {rest : List Char} (h : s.input.toList.drop s.pos = c :: rest) :
    s.pos < s.input.size := by
  have := lt_of_drop_eq_cons h
  rwa [Array.length_toList] at this

theorem acceptRunAux_dropWhile (cands : List Char) (h0 : cands.contains '\x00' = false) : ∀ (n : Nat) (s u : Scan),
    Scan.acceptRunAux cands false n s = some u →
    u.input = s.input ∧ u.input.toList.drop u.pos = (s.input.toList.drop s.pos).dropWhile (fun c => cands.contains c) ∧
    (s.pos ≤ s.input.size → u.pos ≤ u.input.size) := by
  intro n s u h
  -- every accepted character is one that `dropWhile` drops, and the run stops where `dropWhile` stops
  obtain ⟨⟨h1, h2, h3⟩, hstop⟩ := acceptRunAux_ind (P := fun v => v.input = s.input ∧
      (v.input.toList.drop v.pos).dropWhile (fun c => cands.contains c)
        = (s.input.toList.drop s.pos).dropWhile (fun c => cands.contains c) ∧
      (s.pos ≤ s.input.size → v.pos ≤ v.input.size)) cands false (fun v ⟨v1, v2, v3⟩ ht => by
    have hlt := accept_true_lt v cands h0 ht
    have hi := (accept_step v cands false).1
    have hp := (accept_step v cands false).2.1 ht hlt
    refine ⟨hi.trans v1, ?_, fun _ => by rw [hi, hp]; omega⟩
    rw [hi, hp, ← v2, drop_peek v hlt, List.dropWhile_cons_of_pos (by rw [← accept_snd]; exact ht)]) n s u ⟨rfl, rfl, id⟩ h
  refine ⟨h1, ?_, h3⟩
  rw [← h2]
  by_cases hlt : u.pos < u.input.size
  · rw [drop_peek u hlt, List.dropWhile_cons_of_neg (by rw [← accept_snd, hstop]; exact Bool.false_ne_true)]
  · rw [List.drop_of_length_le (by rw [Array.length_toList]; omega)]; rfl

theorem acceptRun_dropWhile {s u : Scan} {cands : List Char} (h0 : cands.contains '\x00' = false)
    (h : s.acceptRun cands = .ok u) :
    u.input = s.input ∧ u.input.toList.drop u.pos = (s.input.toList.drop s.pos).dropWhile (fun c => cands.contains c) ∧
    (s.pos ≤ s.input.size → u.pos ≤ u.input.size) := by
  unfold Scan.acceptRun at h
  split at h
  · rename_i u' heq; cases h
    exact acceptRunAux_dropWhile cands h0 _ _ u heq
  · cases h

/-- the state after `ignore_run(cands)`: the same scan, positioned after the longest run of candidates -/
theorem ignoreRun_dropWhile (s t : Scan) (cands : List Char) (h0 : cands.contains '\x00' = false)
    (h : s.ignoreRun cands = .ok t) :
    t.input = s.input ∧ t.input.toList.drop t.pos = (s.input.toList.drop s.pos).dropWhile (fun c => cands.contains c) ∧
    (s.pos ≤ s.input.size → t.pos ≤ t.input.size) := by
  obtain ⟨u, hu, rfl⟩ := ignoreRun_ok h
  exact acceptRun_dropWhile (u := u) h0 hu

theorem Sim.ofBoundary (a b : Scan) (ha : a.start = a.pos) (hb : b.start = b.pos) (hpa : a.pos ≤ a.input.size)
    (hpb : b.pos ≤ b.input.size) (hrest : a.input.toList.drop a.pos = b.input.toList.drop b.pos) :
    Sim a.pos b.pos a.toks.size b.toks.size a b := by
  refine ⟨hrest, hpa, hpb, by omega, by omega, by omega, by omega, by omega, by omega, ⟨Nat.le_refl _, Nat.le_refl _, ?_⟩⟩
  rw [List.drop_of_length_le (by simp), List.drop_of_length_le (by simp)]

/-- two between-token points whose remaining texts agree once a leading run of `cands` is dropped: `ignore_run(cands)`
    takes them to similar states -/
theorem sim_after_ignoreRun (cands : List Char) (h0 : cands.contains '\x00' = false) (s1 s2 : Scan)
    (l1 : s1.pos ≤ s1.input.size) (l2 : s2.pos ≤ s2.input.size)
    (hrest : (s1.input.toList.drop s1.pos).dropWhile (fun c => cands.contains c) =
      (s2.input.toList.drop s2.pos).dropWhile (fun c => cands.contains c)) :
    ∃ t1 t2, s1.ignoreRun cands = .ok t1 ∧ s2.ignoreRun cands = .ok t2 ∧
      Sim t1.pos t2.pos s1.toks.size s2.toks.size t1 t2 := by
  obtain ⟨t1, r1⟩ := ignoreRun_returns s1 cands h0
  obtain ⟨t2, r2⟩ := ignoreRun_returns s2 cands h0
  obtain ⟨_, d2, d3⟩ := ignoreRun_dropWhile s1 t1 cands h0 r1
  obtain ⟨_, g2, g3⟩ := ignoreRun_dropWhile s2 t2 cands h0 r2
  have hsim := Sim.ofBoundary t1 t2 (ignoreRun_idem r1).2 (ignoreRun_idem r2).2 (d3 l1) (g3 l2)
    (by rw [d2, g2]; exact hrest)
  rw [ScanT.ignoreRun_toks r1, ScanT.ignoreRun_toks r2] at hsim
  exact ⟨t1, t2, r1, r2, hsim⟩

/-- executable reachability: the state at the head of the `k`-th later iteration -/
def iter (cfg : ScanCfg) (st : ScanState) : Nat → Scan → Option Scan
  | 0, s => some s
  | k+1, s =>
    if s.pos < s.input.size then
      match runState cfg st s with
      | .ok s1 => if (s1.pos == s.pos && s1.toks.size == s.toks.size) = true then none else iter cfg st k s1
      | .error _ => none
    else none

theorem reach_iter (cfg : ScanCfg) (st : ScanState) : ∀ (k : Nat) (s s' : Scan), iter cfg st k s = some s' →
    Reach cfg st s s' := by
  intro k
  induction k with
  | zero => intro s s' h; cases h; exact Reach.refl _
  | succ k ih =>
    intro s s' h
    unfold iter at h
    split at h
    · rename_i hlt
      split at h
      · rename_i s1 hr
        split at h
        · cases h
        · rename_i hg; exact Reach.step hlt hr hg (ih _ _ h)
      · cases h
    · cases h

/-- an iteration that goes on has consumed input; one that stops returns its state unchanged -/
theorem exprIter_spec (t : Scan) :
    match exprIter t with
    | .ok (x, true) => x.input = t.input ∧ t.pos < x.pos
    | .ok (x, false) => x = t
    | .error _ => True := by
  rw [exprIter_eq]
  refine dispatch_ind (Q := fun (r : Except (Err × Scan) (Scan × Bool)) => match r with
    | .ok (x, true) => x.input = t.input ∧ t.pos < x.pos
    | .ok (x, false) => x = t
    | .error _ => True) t exprRows (fun e _ ha => ?_) rfl
  obtain ⟨hs, hlt⟩ := safe_erow e t ha
  cases hx : e.act (e.acc.run t).1 with
  | error _ => trivial
  | ok x => rw [hx] at hs; exact ⟨hs.later.input, hlt x hx⟩

/-- the loop goes on after an iteration only from a later position -/
theorem exprCont_fuel {n m : Nat} {t : Scan}
    (h : ∀ x : Scan, x.input = t.input → t.pos < x.pos → lexExpressionLoop n x = lexExpressionLoop m x) :
    exprCont n (exprIter t) = exprCont m (exprIter t) := by
  have hsp := exprIter_spec t
  revert hsp
  cases exprIter t with
  | error e => intro _; rfl
  | ok xb =>
    obtain ⟨x, b⟩ := xb
    cases b with
    | false => intro _; rfl
    | true => exact fun hsp => h x hsp.1 hsp.2

/-- the fuel of the loop of `lex_expression` is irrelevant once it exceeds the remaining input -/
theorem lexExpressionLoop_fuel : ∀ (n m : Nat) (s : Scan), s.input.size - s.pos < n → s.input.size - s.pos < m →
    lexExpressionLoop n s = lexExpressionLoop m s := by
  intro n
  induction n with
  | zero => intro m s h; omega
  | succ n ih =>
    intro m s hn hm
    obtain ⟨m, rfl⟩ : ∃ k, m = k + 1 := ⟨m - 1, by omega⟩
    rw [lexExpressionLoop_succ, lexExpressionLoop_succ]
    by_cases hlt : s.pos < s.input.size
    · rw [if_pos hlt, if_pos hlt]
      cases hr : s.ignoreRun [' '] with
      | error e => rfl
      | ok t =>
        have ht := (safe_ignoreRun s _ he_sp).of_ok hr
        have := ht.pos
        exact exprCont_fuel fun x h1 _ => ih m x (by rw [h1, ht.input]; omega) (by rw [h1, ht.input]; omega)
    · rw [if_neg hlt, if_neg hlt]

theorem lexExpressionLoop_eof (n : Nat) (s : Scan) (h : ¬ s.pos < s.input.size) : lexExpressionLoop n s = .ok s := by
  cases n with
  | zero => unfold lexExpressionLoop; rw [if_neg h]
  | succ n => rw [lexExpressionLoop_step, if_neg h]

theorem exprIter_eof (t : Scan) (h : ¬ t.pos < t.input.size) : exprIter t = .ok (t, false) := by
  rw [exprIter_eq]
  exact dispatch_none t exprRows fun e _ => acc_eof e.acc e.acc_wf t h

/-- **blanks in front of a token of an expression are skipped without any other effect** -/
theorem lexExpressionLoop_skip_spaces (s t : Scan) (hst : s.start = s.pos) (hr : s.ignoreRun [' '] = .ok t) :
    ∀ (n m : Nat), s.input.size - s.pos < n → t.input.size - t.pos < m →
    lexExpressionLoop n s = lexExpressionLoop m t := by
  intro n m hn hm
  rcases ignoreRun_eq_or_lt he_sp hst hr with rfl | ⟨_, hs⟩
  · exact lexExpressionLoop_fuel n m t hn hm
  -- the iteration from `s` skips the blanks and goes on as the iteration from `t` does (this loop has no guard)
  obtain ⟨n, rfl⟩ : ∃ k, n = k + 1 := ⟨n - 1, by omega⟩
  have ht := (safe_ignoreRun s _ he_sp).of_ok hr
  have := ht.pos
  rw [lexExpressionLoop_succ, if_pos hs, hr]
  simp only []
  by_cases hlt : t.pos < t.input.size
  · obtain ⟨m, rfl⟩ : ∃ k, m = k + 1 := ⟨m - 1, by omega⟩
    rw [lexExpressionLoop_succ, if_pos hlt, (ignoreRun_idem hr).1]
    exact exprCont_fuel fun x h1 _ => lexExpressionLoop_fuel n m x (by rw [h1, ht.input]; omega) (by rw [h1]; omega)
  · rw [exprIter_eof t hlt, lexExpressionLoop_eof m t hlt]
    rfl

end A816.ScanS
