import A816.Model.Ips
import A816.Spec.Ips
import A816.Proofs.Bytes
/-! Helper lemmas for C11: what the writer emits is read back by the standard reader. -/
namespace A816
open Spec.Ips

/-- with the copier header every record lies 0x200 further on: the header's 512 bytes -/
def shiftOf (copier : Bool) : Int := if copier then 0x200 else 0

/-- the records a block is supposed to become: consecutive slices of at most 0xFFFF bytes; `fuel` is the iteration bound of
    `ipsWriteBlockAux`, what is left of the block after `fuel` slices is dropped -/
def chunks : Nat → Nat → List Nat → List Record
  | 0, _, _ => []
  | fuel+1, addr, block =>
    if block = [] then [] else
      let n := min 0xFFFF block.length
      ⟨addr, block.take n⟩ :: chunks fuel (addr + n) (block.drop n)

/-- a header that was written encodes a representable offset other than `EOF` -/
theorem ipsHeader_ok (copier : Bool) (addr : Int) (n : Nat) (h : List Nat) (hn : n ≤ 65535)
    (hh : ipsHeader copier addr n = .ok h) :
    ∃ a : Nat, (a : Int) = addr + shiftOf copier ∧ a < 16777216 ∧ a ≠ 0x454F46 ∧
      h = [a / 65536, a / 256 % 256, a % 256, n / 256, n % 256] := by
  unfold ipsHeader at hh
  rw [show (if copier = true then addr + 0x200 else addr) = addr + shiftOf copier by
    cases copier <;> simp [shiftOf], packHbe_nat (Nat.lt_succ_of_le hn)] at hh
  generalize addr + shiftOf copier = a at hh
  dsimp only at hh
  split at hh
  · cases hh
  · cases hp : packBHbe (a / 65536) (a % 65536) with
    | none => rw [hp] at hh; cases hh
    | some x =>
      obtain ⟨m, hm, rfl, rfl⟩ := packBHbe_eq_some.mp hp
      rw [hp] at hh
      exact ⟨m, rfl, hm, fun e => ‹¬ _› (congrArg Nat.cast e), (Except.ok.inj hh).symm⟩

/-- the standard reader reads one written record and continues with the tail -/
theorem header_parse (a n : Nat) (data tail : List Nat) (ha : a < 16777216) (hne : a ≠ 0x454F46)
    (hn : 0 < n ∧ n ≤ 65535) (hlen : data.length = n) (fuel : Nat) :
    parseRecords (fuel + 1) ([a / 65536, a / 256 % 256, a % 256, n / 256, n % 256] ++ data ++ tail)
      = (parseRecords fuel tail).map fun rs => ⟨a, data⟩ :: rs := by
  have hne' : ¬ ([a / 65536, a / 256 % 256, a % 256] = eof) := fun e => by
    injection e with e0 e; injection e with e1 e; injection e with e2
    exact hne (by rw [← be3_decode a, e0, e1, e2])
  subst hlen
  simp only [List.cons_append, List.nil_append, parseRecords, List.take_succ_cons, List.take_zero, hne',
    ↓reduceIte, Nat.div_add_mod', Nat.ne_of_gt hn.1, List.length_append, Nat.not_lt.mpr (Nat.le_add_right _ _),
    be3_decode, List.take_left', List.drop_left']

/-- one block: what the writer emitted, followed by a tail the standard reader reads, is read as the block's chunks
    followed by the tail's records -/
theorem writeBlock_reads {copier : Bool} {tail : List Nat} {rs : List Record} (ht : ∃ f, parseRecords f tail = some rs) :
    ∀ {fuel : Nat} {addr : Int} {block out : List Nat}, ipsWriteBlockAux copier fuel addr block = .ok out →
      ∃ f, parseRecords f (out ++ tail) = some (chunks fuel (addr + shiftOf copier).toNat block ++ rs) := by
  intro fuel
  induction fuel with
  | zero =>
    intro addr block out hw
    unfold ipsWriteBlockAux at hw
    split at hw
    · cases hw; exact ht
    · cases hw
  | succ fuel ih =>
    intro addr block out hw
    unfold ipsWriteBlockAux at hw
    unfold chunks
    split at hw
    · next hb => cases hw; rw [if_pos hb]; exact ht
    · next hb =>
      rw [if_neg hb]
      dsimp only at hw ⊢
      generalize hn : min 0xFFFF block.length = n at hw ⊢
      cases hh : ipsHeader copier addr n with
      | error e => rw [hh] at hw; cases hw
      | ok h =>
        cases hr : ipsWriteBlockAux copier fuel (addr + n) (block.drop n) with
        | error e => rw [hh, hr] at hw; cases hw
        | ok rest =>
          rw [hh, hr] at hw; cases hw
          have hpos : 0 < block.length := List.length_pos_iff.mpr hb
          obtain ⟨a, ha1, ha2, ha3, rfl⟩ := ipsHeader_ok copier addr n h (by omega) hh
          obtain ⟨f, hf⟩ := ih hr
          -- the chunks of the remainder start right after this slice
          have : (addr + n + shiftOf copier).toNat = (addr + shiftOf copier).toNat + n := by omega
          rw [this] at hf
          refine ⟨f + 1, ?_⟩
          rw [List.append_assoc, header_parse a n _ _ ha2 ha3 (by omega) (by rw [List.length_take]; omega) f, hf,
            ← ha1, Int.toNat_natCast]
          rfl

end A816
