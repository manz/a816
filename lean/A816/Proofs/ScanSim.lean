import A816.Proofs.ScanProg
/-!
# The scanner is local: what it does depends only on the text from the current token on (helper lemmas for C16)

Two scans — of different texts, at different positions — are *similar* (`Sim A B ka kb a b`) when the text of `a` from its base
point `A` on is the text of `b` from `B` on, both are at the same distance from their base points (token start and
position), and the tokens of `a` after its first `ka` and those of `b` after its first `kb` have the same types and texts
(`key`; positions, line bookkeeping and file are not compared).  Every scanner primitive and every state function of `scanner_states.py` takes similar states to similar
results (`RelR`): the same branch is taken, the same token types and texts are emitted, the same error message is raised.
Hence the token stream after a point where the scanner is between tokens is a function of the remaining text alone
(`sim_scanLoop`): what stands before that point — and how it was laid out — cannot influence it.
The state functions are walked over the pieces of `ScanProg`; `RelR.ite` is the step "both sides take the same branch".
-/
namespace A816.ScanS
open A816 Scan ScanB

seal lexNumber Scan.accept

/-- what the parser reads of a token -/
def key (t : Tok) : TokTy × String := (t.ty, t.val)

/-- the tokens emitted after the first `ka` (resp. `kb`) have the same types and texts -/
structure TokRel (ka kb : Nat) (ta tb : Array Tok) : Prop where
  la : ka ≤ ta.size
  lb : kb ≤ tb.size
  eq : (ta.toList.drop ka).map key = (tb.toList.drop kb).map key

/-- `rest`: the texts agree from the base points on; `ia ib`: the base points lie in the texts; `sa sb`: the token starts are
    not before them; `pa pb`: the positions are not before the starts; `start`, `pos`: the same distances from the base
    points on both sides; `toks`: the tokens after the first `ka` / `kb` agree -/
structure Sim (A B ka kb : Nat) (a b : Scan) : Prop where
  rest : a.input.toList.drop A = b.input.toList.drop B
  ia : A ≤ a.input.size
  ib : B ≤ b.input.size
  sa : A ≤ a.start
  sb : B ≤ b.start
  pa : a.start ≤ a.pos
  pb : b.start ≤ b.pos
  start : a.start + B = b.start + A
  pos : a.pos + B = b.pos + A
  toks : TokRel ka kb a.toks b.toks

/-- an exception without its position -/
def errKey : Err → Err
  | .scan msg _ _ => .scan msg 0 0
  | e => e

/-- similar results: both return similar states, or both raise the same exception (up to its position) having
    emitted the same tokens -/
def RelR (A B ka kb : Nat) (r1 r2 : SR) : Prop :=
  match r1, r2 with
  | .ok a, .ok b => Sim A B ka kb a b
  | .error (e1, a), .error (e2, b) => errKey e1 = errKey e2 ∧ TokRel ka kb a.toks b.toks
  | _, _ => False

variable {A B ka kb : Nat}

/-- composition along `>>=` (the continuation also learns which results it continues) -/
theorem RelR.bind' {r1 r2 : SR} {f g : Scan → SR} (h : RelR A B ka kb r1 r2)
    (hf : ∀ a b, r1 = .ok a → r2 = .ok b → Sim A B ka kb a b → RelR A B ka kb (f a) (g b)) : RelR A B ka kb (r1 >>= f) (r2 >>= g) := by
  cases r1 with
  | error e1 =>
    cases r2 with
    | error e2 => exact h
    | ok b => exact h.elim
  | ok a =>
    cases r2 with
    | error e2 => obtain ⟨e, s⟩ := e2; exact h.elim
    | ok b => exact hf a b rfl rfl h

theorem RelR.bind {r1 r2 : SR} {f g : Scan → SR} (h : RelR A B ka kb r1 r2)
    (hf : ∀ a b, Sim A B ka kb a b → RelR A B ka kb (f a) (g b)) : RelR A B ka kb (r1 >>= f) (r2 >>= g) :=
  h.bind' fun a b _ _ => hf a b

theorem RelR.ok {a b : Scan} (h : Sim A B ka kb a b) : RelR A B ka kb (.ok a) (.ok b) := h
theorem RelR.pure {a b : Scan} (h : Sim A B ka kb a b) : RelR A B ka kb (pure a) (pure b) := h

theorem Sim.sizes {a b : Scan} (h : Sim A B ka kb a b) : a.input.size - A = b.input.size - B := by
  have := congrArg List.length h.rest
  simpa using this

/-- the numbers of `Sim`, for `omega` -/
theorem Sim.arith {a b : Scan} (h : Sim A B ka kb a b) : a.input.size + B = b.input.size + A ∧
    A ≤ a.start ∧ B ≤ b.start ∧ a.start ≤ a.pos ∧ b.start ≤ b.pos ∧ a.start + B = b.start + A ∧ a.pos + B = b.pos + A :=
  ⟨by have := h.sizes; have := h.ia; have := h.ib; omega, h.sa, h.sb, h.pa, h.pb, h.start, h.pos⟩

theorem Sim.lt_iff {a b : Scan} (h : Sim A B ka kb a b) : a.pos < a.input.size ↔ b.pos < b.input.size := by
  have := h.arith; omega

theorem Sim.remaining {a b : Scan} (h : Sim A B ka kb a b) : a.input.size - a.pos = b.input.size - b.pos := by
  have := h.arith; omega

theorem Sim.drop_eq {a b : Scan} (h : Sim A B ka kb a b) (i j : Nat) (hi : A ≤ i) (hij : i + B = j + A) :
    a.input.toList.drop i = b.input.toList.drop j := by
  have e1 : a.input.toList.drop i = (a.input.toList.drop A).drop (i - A) := by
    rw [List.drop_drop]; congr 1; omega
  have e2 : b.input.toList.drop j = (b.input.toList.drop B).drop (j - B) := by
    rw [List.drop_drop]; congr 1; omega
  rw [e1, e2, h.rest]
  congr 1; omega

theorem Sim.peek {a b : Scan} (h : Sim A B ka kb a b) (k : Nat) : a.peek k = b.peek k := by
  rw [peek_k_of_drop a k rfl, peek_k_of_drop b k rfl, h.drop_eq a.pos b.pos (Nat.le_trans h.sa h.pa) h.pos]

theorem Sim.slice {a b : Scan} (h : Sim A B ka kb a b) (n m : Nat) (hnm : n + b.start = m + a.start) :
    a.slice a.start n = b.slice b.start m := by
  unfold Scan.slice
  rw [h.drop_eq a.start b.start h.sa h.start]
  congr 2
  have := h.start; omega

theorem Sim.tokenText {a b : Scan} (h : Sim A B ka kb a b) : a.tokenText = b.tokenText := by
  unfold Scan.tokenText
  exact h.slice _ _ (by have := h.start; have := h.pos; omega)

/-- both sides moved by the same amount, and nothing else that `Sim` looks at changed -/
theorem Sim.move {a b a' b' : Scan} (h : Sim A B ka kb a b)
    (ea : a'.start = a.start ∧ a'.toks = a.toks ∧ a'.input = a.input)
    (eb : b'.start = b.start ∧ b'.toks = b.toks ∧ b'.input = b.input)
    (hp : a.start ≤ a'.pos) (hpq : a'.pos + B = b'.pos + A) : Sim A B ka kb a' b' := by
  obtain ⟨s1, t1, i1⟩ := ea
  obtain ⟨s2, t2, i2⟩ := eb
  have := h.start
  exact ⟨by rw [i1, i2]; exact h.rest, i1 ▸ h.ia, i2 ▸ h.ib, s1 ▸ h.sa, s2 ▸ h.sb, s1 ▸ hp, by rw [s2]; omega,
    by rw [s1, s2]; exact h.start, hpq, by rw [t1, t2]; exact h.toks⟩

theorem Sim.setPos {a b : Scan} (h : Sim A B ka kb a b) (p q : Nat) (hp : a.start ≤ p) (hpq : p + B = q + A) :
    Sim A B ka kb { a with pos := p } { b with pos := q } :=
  h.move ⟨rfl, rfl, rfl⟩ ⟨rfl, rfl, rfl⟩ hp hpq

theorem Sim.backup {a b : Scan} (h : Sim A B ka kb a b) (hlt : a.start < a.pos) : Sim A B ka kb a.backup b.backup := by
  have := h.arith
  exact h.setPos (a.pos - 1) (b.pos - 1) (by omega) (by omega)

theorem Sim.next {a b : Scan} (h : Sim A B ka kb a b) : Sim A B ka kb (a.next).1 (b.next).1 ∧ (a.next).2 = (b.next).2 := by
  obtain ⟨a1, a2, a3, a4, a5⟩ := next_fields a
  obtain ⟨b1, b2, b3, b4, b5⟩ := next_fields b
  rw [ite_congr (propext h.lt_iff) (fun _ => rfl) (fun _ => rfl)] at a4 a5
  have := h.pa
  have := h.pos
  exact ⟨h.move ⟨a1, a2, a3⟩ ⟨b1, b2, b3⟩ (by rw [a4]; split <;> omega) (by rw [a4, b4]; split <;> omega),
    by rw [a5, b5, h.peek 0]⟩

theorem Sim.acceptTest {a b : Scan} (h : Sim A B ka kb a b) (cands : List Char) (negate : Bool) :
    a.acceptTest cands negate = b.acceptTest cands negate := by
  unfold Scan.acceptTest
  rw [h.peek 0]

theorem Sim.accept {a b : Scan} (h : Sim A B ka kb a b) (cands : List Char) (negate : Bool) :
    Sim A B ka kb (a.accept cands negate).1 (b.accept cands negate).1 ∧
    (a.accept cands negate).2 = (b.accept cands negate).2 := by
  unfold Scan.accept
  rw [h.acceptTest cands negate]
  split
  · exact ⟨h.next.1, rfl⟩
  · exact ⟨h, rfl⟩

theorem Sim.acceptPrefix {a b : Scan} (h : Sim A B ka kb a b) (pre : List Char) :
    Sim A B ka kb (a.acceptPrefix pre).1 (b.acceptPrefix pre).1 ∧ (a.acceptPrefix pre).2 = (b.acceptPrefix pre).2 := by
  have := h.arith
  unfold Scan.acceptPrefix
  rw [h.drop_eq a.pos b.pos (by omega) h.pos]
  by_cases hc : (b.input.toList.drop b.pos).take pre.length = pre ∧ b.pos + pre.length ≤ b.input.size
  · rw [if_pos hc, if_pos ⟨hc.1, by omega⟩]
    exact ⟨h.setPos _ _ (by omega) (by omega), rfl⟩
  · rw [if_neg hc, if_neg fun x => hc ⟨x.1, by omega⟩]
    exact ⟨h, rfl⟩

/-- similar optional states -/
def RelO (A B ka kb : Nat) : Option Scan → Option Scan → Prop
  | some a, some b => Sim A B ka kb a b
  | none, none => True
  | _, _ => False

theorem Sim.acceptRunAux (cands : List Char) (negate : Bool) : ∀ (n : Nat) (a b : Scan), Sim A B ka kb a b →
    RelO A B ka kb (acceptRunAux cands negate n a) (acceptRunAux cands negate n b) := by
  intro n
  induction n with
  | zero =>
    intro a b h
    unfold A816.Scan.acceptRunAux
    rw [(h.accept cands negate).2]
    by_cases hc : (b.accept cands negate).2 = true
    · rw [if_pos hc, if_pos hc]; trivial
    · rw [if_neg hc, if_neg hc]; exact h
  | succ n ih =>
    intro a b h
    unfold A816.Scan.acceptRunAux
    simp only
    rw [(h.accept cands negate).2]
    by_cases hc : (b.accept cands negate).2 = true
    · rw [if_pos hc, if_pos hc]; exact ih _ _ (h.accept cands negate).1
    · rw [if_neg hc, if_neg hc]; exact h

theorem Sim.acceptRun {a b : Scan} (h : Sim A B ka kb a b) (cands : List Char) (negate : Bool) :
    RelR A B ka kb (a.acceptRun cands negate) (b.acceptRun cands negate) := by
  unfold Scan.acceptRun
  rw [h.remaining]
  have := Sim.acceptRunAux cands negate (b.input.size - b.pos + 1) a b h
  revert this
  cases Scan.acceptRunAux cands negate (b.input.size - b.pos + 1) a <;>
    cases Scan.acceptRunAux cands negate (b.input.size - b.pos + 1) b <;> intro this
  · exact ⟨rfl, h.toks⟩
  · exact this.elim
  · exact this.elim
  · exact this

theorem Sim.ignore {a b : Scan} (h : Sim A B ka kb a b) : Sim A B ka kb a.ignore b.ignore :=
  ⟨h.rest, h.ia, h.ib, Nat.le_trans h.sa h.pa, Nat.le_trans h.sb h.pb, Nat.le_refl _, Nat.le_refl _, h.pos, h.pos, h.toks⟩

theorem Sim.ignoreRun {a b : Scan} (h : Sim A B ka kb a b) (cands : List Char) :
    RelR A B ka kb (a.ignoreRun cands) (b.ignoreRun cands) := by
  rw [ignoreRun_eq, ignoreRun_eq]
  exact (h.acceptRun cands false).bind fun _ _ h1 => h1.ignore

theorem TokRel.push {ta tb : Array Tok} (h : TokRel ka kb ta tb) (x y : Tok) (hxy : key x = key y) :
    TokRel ka kb (ta.push x) (tb.push y) := by
  refine ⟨by rw [Array.size_push]; have := h.la; omega, by rw [Array.size_push]; have := h.lb; omega, ?_⟩
  have ha : ka ≤ ta.toList.length := by simpa using h.la
  have hb : kb ≤ tb.toList.length := by simpa using h.lb
  rw [Array.toList_push, Array.toList_push, List.drop_append_of_le_length ha, List.drop_append_of_le_length hb]
  simp only [List.map_append, List.map_cons, List.map_nil, h.eq, hxy]

theorem Sim.emit {a b : Scan} (h : Sim A B ka kb a b) (ty : TokTy) : Sim A B ka kb (a.emit ty) (b.emit ty) := by
  refine ⟨h.rest, h.ia, h.ib, Nat.le_trans h.sa h.pa, Nat.le_trans h.sb h.pb, Nat.le_refl _, Nat.le_refl _, h.pos, h.pos, ?_⟩
  show TokRel ka kb (a.toks.push _) (b.toks.push _)
  apply h.toks.push
  simp only [key, h.tokenText]

theorem errKey_err (a b : Scan) (m : String) : errKey (a.err m) = errKey (b.err m) := rfl

theorem Sim.invalidInput {a b : Scan} (h : Sim A B ka kb a b) : errKey (ScanB.invalidInput a) = errKey (ScanB.invalidInput b) := by
  unfold ScanB.invalidInput
  rw [h.slice a.input.size b.input.size (by have := h.arith; omega)]
  rfl

theorem RelR.err {a b : Scan} {e1 e2 : Err} (he : errKey e1 = errKey e2) (ht : TokRel ka kb a.toks b.toks) :
    RelR A B ka kb (.error (e1, a)) (.error (e2, b)) := ⟨he, ht⟩

theorem RelR.ite {b1 b2 : Bool} {x1 y1 x2 y2 : SR} (hb : b1 = b2) (hx : b2 = true → RelR A B ka kb x1 x2)
    (hy : ¬ b2 = true → RelR A B ka kb y1 y2) :
    RelR A B ka kb (if b1 = true then x1 else y1) (if b2 = true then x2 else y2) := by
  subst hb
  split
  · exact hx ‹_›
  · exact hy ‹_›

theorem Sim.ite_lt {a b : Scan} (h : Sim A B ka kb a b) {x1 y1 x2 y2 : SR} (hx : RelR A B ka kb x1 x2)
    (hy : RelR A B ka kb y1 y2) :
    RelR A B ka kb (if a.pos < a.input.size then x1 else y1) (if b.pos < b.input.size then x2 else y2) := by
  by_cases hc : b.pos < b.input.size
  · rw [if_pos (h.lt_iff.mpr hc), if_pos hc]; exact hx
  · rw [if_neg (mt h.lt_iff.mp hc), if_neg hc]; exact hy

section walk
attribute [local irreducible] RelR

theorem Sim.acc {a b : Scan} (h : Sim A B ka kb a b) (α : Acc) :
    Sim A B ka kb (α.run a).1 (α.run b).1 ∧ (α.run a).2 = (α.run b).2 := by
  cases α with
  | chars c => exact h.accept c false
  | pre p => exact h.acceptPrefix p

theorem Sim.err {a b : Scan} (h : Sim A B ka kb a b) (m : String) : RelR A B ka kb (.error (a.err m, a)) (.error (b.err m, b)) :=
  .err rfl h.toks

theorem sim_emit {a b : Scan} (h : Sim A B ka kb a b) (ty : TokTy) : RelR A B ka kb (pure (a.emit ty)) (pure (b.emit ty)) :=
  .pure (h.emit ty)

theorem sim_runEmit {a b : Scan} (h : Sim A B ka kb a b) (c : List Char) (ty : TokTy) :
    RelR A B ka kb (a.acceptRun c >>= fun s => pure (s.emit ty)) (b.acceptRun c >>= fun s => pure (s.emit ty)) :=
  (h.acceptRun c false).bind fun _ _ h2 => sim_emit h2 ty

theorem sim_identTail {a b : Scan} (h : Sim A B ka kb a b) : RelR A B ka kb (identTail a) (identTail b) :=
  .ite (by rw [h.peek 0, h.peek 1]) (fun _ => .pure (h.emit .LABEL).next.1.ignore) fun _ =>
  .ite (by rw [h.peek 0]) (fun _ => sim_runEmit h.next.1 _ _) fun _ => sim_emit h _

theorem sim_lexIdentifier {a b : Scan} (h : Sim A B ka kb a b) : RelR A B ka kb (lexIdentifier a) (lexIdentifier b) := by
  rw [lexIdentifier_eq, lexIdentifier_eq]
  exact (h.acceptRun identChars false).bind fun _ _ => sim_identTail

theorem sim_lexNumber {a b : Scan} (h : Sim A B ka kb a b) (hlt : a.start < a.pos) : RelR A B ka kb (lexNumber a) (lexNumber b) := by
  unfold lexNumber
  simp only []
  have h0 := (h.backup hlt).next
  have h1 := h0.1.next
  rw [h0.2, h1.2]
  refine .ite (by rw [h0.1.peek 0]) (fun _ => sim_emit h0.1 _) fun _ => .ite rfl (fun hz => ?_) fun _ => sim_runEmit h0.1 _ _
  refine .ite rfl (fun _ => sim_runEmit h1.1 _ _) fun _ => .ite rfl (fun _ => sim_runEmit h1.1 _ _) fun _ =>
    .ite rfl (fun _ => sim_runEmit h1.1 _ _) fun _ => .pure ((h1.1.backup ?_).emit _)
  -- the `0` was consumed, so the pending text is not empty after the second `next`
  have hxlt : a.backup.pos < a.backup.input.size := Decidable.by_contra fun hq => by
    rw [← h0.2, (next_pos_ge _ hq).2] at hz; exact absurd hz (by decide)
  have := next_pos_lt _ hxlt
  have := next_pos_le (a.backup.next).1
  have : a.backup.pos = a.pos - 1 := rfl
  rw [next_start, next_start]
  show a.start < _
  omega

theorem sim_quotedLoop {e1 e2 : Err} (he : errKey e1 = errKey e2) : ∀ {n : Nat} {a b : Scan} {c : Option Char},
    Sim A B ka kb a b → RelR A B ka kb (quotedLoop e1 n a c) (quotedLoop e2 n b c) := by
  intro n
  induction n with
  | zero => intro a b c h; unfold quotedLoop; exact .err rfl h.toks
  | succ n ih =>
    intro a b c h
    unfold quotedLoop
    refine .ite rfl (fun _ => .ok h) fun _ => .ite rfl (fun _ => .err he h.toks) fun _ => ?_
    have hs : Sim A B ka kb (if (c == some '\\' && a.peek == '\'') = true then (a.next).1 else a)
        (if (c == some '\\' && b.peek == '\'') = true then (b.next).1 else b) := by
      rw [h.peek 0]
      split
      · exact h.next.1
      · exact h
    rw [hs.next.2]
    exact ih hs.next.1

theorem sim_lexQuotedString {a b : Scan} (h : Sim A B ka kb a b) : RelR A B ka kb (lexQuotedString a) (lexQuotedString b) := by
  unfold lexQuotedString
  simp only []
  rw [h.next.2, h.remaining]
  exact (sim_quotedLoop (errKey_err a b _) h.next.1).bind fun _ _ h2 => sim_emit h2 _

theorem sim_lineCommentLoop : ∀ {n : Nat} {a b : Scan}, Sim A B ka kb a b → RelR A B ka kb (lineCommentLoop n a) (lineCommentLoop n b) := by
  intro n
  induction n with
  | zero => intro a b h; unfold lineCommentLoop; exact .err rfl h.toks
  | succ n ih =>
    intro a b h
    unfold lineCommentLoop
    exact .ite (by rw [h.next.2]) (fun _ => .ok h.next.1) fun _ => ih h.next.1

theorem sim_blockCommentLoop {e1 e2 : Err} (he : errKey e1 = errKey e2) : ∀ {n : Nat} {a b : Scan}, Sim A B ka kb a b →
    RelR A B ka kb (blockCommentLoop e1 n a) (blockCommentLoop e2 n b) := by
  intro n
  induction n with
  | zero => intro a b h; unfold blockCommentLoop; exact .err rfl h.toks
  | succ n ih =>
    intro a b h
    unfold blockCommentLoop
    exact .ite (h.acceptPrefix _).2 (fun _ => .ok (h.acceptPrefix _).1) fun _ =>
      .ite (by rw [h.next.2]) (fun _ => .err he h.next.1.toks) fun _ => ih h.next.1

theorem sim_lexKeyword (cfg : ScanCfg) {a b : Scan} (h : Sim A B ka kb a b) : RelR A B ka kb (lexKeyword cfg a) (lexKeyword cfg b) := by
  unfold lexKeyword
  refine (h.ignore.acceptRun _ false).bind fun a1 b1 h1 => ?_
  rw [h1.tokenText]
  exact .ite rfl (fun _ => sim_emit h1 _) fun _ => h1.err _

theorem sim_lexOpcodeIndex {a b : Scan} (h : Sim A B ka kb a b) : RelR A B ka kb (lexOpcodeIndex a) (lexOpcodeIndex b) := by
  unfold lexOpcodeIndex
  exact (h.ignore.ignoreRun _).bind fun _ _ h1 =>
    .ite (h1.accept _ false).2 (fun _ => sim_emit (h1.accept _ false).1 _) fun _ => h1.err _

theorem sim_optIndex {a b : Scan} (h : Sim A B ka kb a b) : RelR A B ka kb (optIndex a) (optIndex b) :=
  .ite (h.accept _ false).2 (fun _ => sim_lexOpcodeIndex (h.accept _ false).1) fun _ => .pure h

theorem Sim.bracket {a b : Scan} (h : Sim A B ka kb a b) : ∀ (l : List (Char × TokTy)), Sim A B ka kb (bracket l a) (bracket l b)
  | [] => h
  | (c, ty) :: l => by
    unfold ScanB.bracket
    rw [h.peek 0]
    split
    · exact h.next.1.emit ty
    · exact h.bracket l

theorem sim_erow (e : ERow) {a b : Scan} (h : Sim A B ka kb a b) (ha : (e.acc.run a).2 = true) :
    RelR A B ka kb (e.act (e.acc.run a).1) (e.act (e.acc.run b).1) := by
  have h1 := (h.acc e.acc).1
  cases e with
  | tok α ty _ => exact sim_emit h1 ty
  | ident => exact sim_lexIdentifier h1
  | number => exact sim_lexNumber h1 (accept_start_lt a _ high_digit.nul h.pa ha)

theorem sim_lexExpressionLoop : ∀ {n : Nat} {a b : Scan}, Sim A B ka kb a b →
    RelR A B ka kb (lexExpressionLoop n a) (lexExpressionLoop n b) := by
  intro n
  induction n with
  | zero => intro a b h; unfold lexExpressionLoop; exact h.ite_lt (.err rfl h.toks) (.ok h)
  | succ n ih =>
    intro a b h
    rw [lexExpressionLoop_step, lexExpressionLoop_step]
    exact h.ite_lt ((h.ignoreRun _).bind fun ta tb ht =>
      dispatch_rel ta tb exprRows (fun e _ => (ht.acc e.acc).2.symm)
        (fun e _ ha => (sim_erow e ht ha).bind fun _ _ h2 => ih h2) (.pure ht)) (.ok h)

theorem sim_lexExpression {a b : Scan} (h : Sim A B ka kb a b) : RelR A B ka kb (lexExpression a) (lexExpression b) := by
  unfold lexExpression
  rw [h.remaining]
  exact sim_lexExpressionLoop h

theorem sim_lexOperand {a b : Scan} (h : Sim A B ka kb a b) : RelR A B ka kb (lexOperand a) (lexOperand b) := by
  rw [lexOperand_eq, lexOperand_eq]
  exact ((h.bracket _).ignoreRun _).bind fun _ _ h1 => (sim_lexExpression h1).bind fun _ _ h2 =>
    (h2.ignoreRun _).bind fun _ _ h3 => (sim_optIndex h3).bind fun _ _ h4 =>
    ((h4.bracket _).ignoreRun _).bind fun _ _ => sim_optIndex

theorem sim_lexOpcodeSize {a b : Scan} (h : Sim A B ka kb a b) : RelR A B ka kb (lexOpcodeSize a) (lexOpcodeSize b) := by
  unfold lexOpcodeSize
  simp only []
  have ha := h.ignore.accept (chars "bBwWlL") false
  exact .ite ha.2 (fun _ => ((ha.1.emit _).ignoreRun _).bind fun _ _ => sim_lexOperand) fun _ =>
    .err rfl h.ignore.next.1.toks

theorem sim_opTail {a b : Scan} (h : Sim A B ka kb a b) : RelR A B ka kb (opTail a) (opTail b) :=
  (RelR.ite (h.accept _ false).2 (fun _ => sim_lexOpcodeSize (h.accept _ false).1) fun _ => .pure h).bind fun _ _ h1 =>
    (h1.ignoreRun _).bind fun _ _ => sim_lexOperand

theorem sim_nakedAhead {a b : Scan} (h : Sim A B ka kb a b) : RelR A B ka kb (nakedAhead a) (nakedAhead b) :=
  (h.acceptRun _ false).bind fun _ _ h1 =>
    .ite (h1.accept _ false).2 (fun _ => (h1.accept _ false).1.acceptRun _ true) fun _ => .pure (h1.accept _ false).1

theorem sim_acceptOpcode (cfg : ScanCfg) {a b : Scan} (h : Sim A B ka kb a b) :
    Sim A B ka kb (acceptOpcode cfg a).1 (acceptOpcode cfg b).1 ∧ (acceptOpcode cfg a).2 = (acceptOpcode cfg b).2 := by
  unfold acceptOpcode
  simp only []
  have hs : a.slice a.start (a.pos + 3) = b.slice b.start (b.pos + 3) :=
    h.slice _ _ (by have := h.start; have := h.pos; omega)
  rw [hs, h.peek 3]
  split
  · exact ⟨h.setPos _ _ (by have := h.pa; omega) (by have := h.pos; omega), rfl⟩
  · exact ⟨h, rfl⟩

theorem sim_lexOpcode (cfg : ScanCfg) {a b : Scan} (h : Sim A B ka kb a b) : RelR A B ka kb (lexOpcode cfg a) (lexOpcode cfg b) := by
  rw [lexOpcode_eq, lexOpcode_eq, h.slice a.pos b.pos (by have := h.start; have := h.pos; omega), h.peek 0]
  refine .ite rfl (fun _ => (sim_nakedAhead h).bind' fun a3 b3 ha3 _ h3 => ?_) fun _ => sim_opTail (h.emit _)
  have hset : Sim A B ka kb { a3 with pos := a.pos } { b3 with pos := b.pos } :=
    h3.setPos _ _ (nakedAhead_ind (P := fun u => u.start ≤ a.pos) (fun u c n _ hu => by rwa [accept_start]) h.pa ha3) h.pos
  exact .ite (by rw [h3.peek 0]) (fun _ => sim_emit hset _) fun _ => sim_opTail (hset.emit _)

theorem sim_row (row : Row) {a b : Scan} (h : Sim A B ka kb a b) (ha : (row.acc.run a).2 = true) :
    RelR A B ka kb (row.act a (row.acc.run a).1) (row.act b (row.acc.run b).1) := by
  have h1 := (h.acc row.acc).1
  cases row with
  | expr e => exact sim_erow e h ha
  | tok2 c c2 t2 t1 _ _ =>
    exact .pure (by unfold emit2
                    rw [(h1.accept c2 false).2]
                    split
                    · exact (h1.accept c2 false).1.emit _
                    · exact h1.emit _)
  | keyword cfg => exact sim_lexKeyword cfg h1
  | quoted => exact sim_lexQuotedString h1
  | lineComment =>
    show RelR A B ka kb (lineCommentLoop _ _ >>= _) (lineCommentLoop _ _ >>= _)
    rw [h.remaining]
    exact (sim_lineCommentLoop h1).bind fun _ _ h2 => sim_emit h2 _
  | blockComment =>
    show RelR A B ka kb (blockCommentLoop _ _ _ >>= _) (blockCommentLoop _ _ _ >>= _)
    rw [h.remaining]
    exact (sim_blockCommentLoop (errKey_err _ _ _) h1).bind fun _ _ h2 => sim_emit h2 _
  | word cfg =>
    have hb := h1.backup (accept_start_lt a _ high_letter.nul h.pa ha)
    exact .ite (sim_acceptOpcode cfg hb).2 (fun _ => sim_lexOpcode cfg (sim_acceptOpcode cfg hb).1) fun _ =>
      sim_lexIdentifier hb

theorem sim_lexInitial (cfg : ScanCfg) {a b : Scan} (h : Sim A B ka kb a b) : RelR A B ka kb (lexInitial cfg a) (lexInitial cfg b) := by
  rw [lexInitial_eq, lexInitial_eq]
  refine (h.ignoreRun _).bind fun ta tb ht =>
    dispatch_rel ta tb (initRows cfg) (fun r _ => (ht.acc r.acc).2.symm) (fun r _ ha => sim_row r ht ha) ?_
  unfold initDefault
  rw [ht.next.2]
  exact .ite rfl (fun _ => .err ht.next.1.invalidInput ht.next.1.toks) fun _ => .pure ht.next.1

end walk

theorem Sim.toks_size {a b : Scan} (h : Sim A B ka kb a b) : a.toks.size + kb = b.toks.size + ka := by
  have := congrArg List.length h.toks.eq
  simp only [List.length_map, List.length_drop, Array.length_toList] at this
  have := h.toks.la; have := h.toks.lb
  omega

theorem sim_runState (cfg : ScanCfg) (st : ScanState) {a b : Scan} (h : Sim A B ka kb a b) :
    RelR A B ka kb (runState cfg st a) (runState cfg st b) := by
  cases st with
  | initial => exact sim_lexInitial cfg h
  | expression => exact sim_lexExpression h

/-- **the outer loop of `Scanner.scan` on similar states gives similar results** -/
theorem sim_scanLoop (cfg : ScanCfg) (st : ScanState) : ∀ (n : Nat) (a b : Scan), Sim A B ka kb a b →
    RelR A B ka kb (scanLoop cfg st n a) (scanLoop cfg st n b) := by
  intro n
  induction n with
  | zero => intro a b h; unfold scanLoop; exact h.ite_lt (.err rfl h.toks) (.ok h)
  | succ n ih =>
    intro a b h
    rw [scanLoop_succ, scanLoop_succ]
    refine h.ite_lt ((sim_runState cfg st h).bind fun a1 b1 h1 => ?_) (.ok h)
    -- the no-progress guard compares differences, which are the same on both sides
    have hg : (a1.pos == a.pos && a1.toks.size == a.toks.size) = (b1.pos == b.pos && b1.toks.size == b.toks.size) := by
      have := h1.pos; have := h.pos; have := h1.toks_size; have := h.toks_size
      rw [Bool.eq_iff_iff]; simp only [Bool.and_eq_true, beq_iff_eq]; omega
    exact .ite hg (fun _ => .err h1.next.1.invalidInput h1.next.1.toks) fun _ => ih _ _ h1

end A816.ScanS
