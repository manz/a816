import A816.Proofs.ScanBasic
/-!
# The state functions of the scanner in terms of a few named pieces

Every invariant of the scanner is proved by a walk through the state functions of `scanner_states.py`.  So that no walk
has to open a `do` block of the model, the recurring pieces are named here and each state function gets one equation in
terms of them.  `lex_initial` and the loop of `lex_expression` are first-match dispatches (`dispatch`) over a list of
rows; a row is one of a few kinds (`ERow`, `Row`), so an invariant is proved once per kind and carried over the table by
`dispatch_ind` (one run) or `dispatch_rel` (two runs); `lexInitial_row` is the run of `lex_initial` in front of a
character that selects one branch.  The end of the file says what `Scanner.scan` makes of the result of its loop
(`finish`).
-/
namespace A816.ScanB
open A816 Scan

/-- `let s ← if c then x else y; rest` is compiled with a join point, so the model has the right-hand side -/
theorem ite_bind {c : Prop} [Decidable c] (x y : SR) (f : Scan → SR) :
    ((if c then x else y) >>= f) = if c then x >>= f else y >>= f := by split <;> rfl

/-- the two tests on the text ahead that select a branch: `accept(candidates)` and `accept_prefix(prefix)` -/
inductive Acc
  | chars (c : List Char)
  | pre (p : List Char)

def Acc.run : Acc → Scan → Scan × Bool
  | .chars c, s => s.accept c
  | .pre p, s => s.acceptPrefix p

/-- what every acceptor of the code satisfies and the walks need: it does not succeed at the end of the input (so a
    success consumes input) and it never consumes a newline (so the line bookkeeping and the final newline of a chunk
    are not touched) -/
def Acc.wf : Acc → Bool
  | .chars c => !c.contains '\x00' && !c.contains '\n'
  | .pre p => !p.isEmpty && !p.contains '\n'

theorem Acc.wf_chars {c : List Char} (h : (Acc.chars c).wf = true) : c.contains '\x00' = false ∧ c.contains '\n' = false := by
  simpa only [Acc.wf, Bool.and_eq_true, Bool.not_eq_eq_eq_not, Bool.not_true] using h

theorem Acc.wf_pre {p : List Char} (h : (Acc.pre p).wf = true) : 0 < p.length ∧ p.contains '\n' = false := by
  rw [Acc.wf, Bool.and_eq_true, Bool.not_eq_eq_eq_not, Bool.not_true, Bool.not_eq_eq_eq_not, Bool.not_true] at h
  exact ⟨List.length_pos_iff.mpr (List.isEmpty_eq_false_iff.mp h.1), h.2⟩

theorem acc_lt (α : Acc) (hwf : α.wf = true) (s : Scan) (h : (α.run s).2 = true) : s.pos < (α.run s).1.pos := by
  cases α with
  | chars c => exact accept_lt s c (Acc.wf_chars hwf).1 h
  | pre p => exact acceptPrefix_lt s p (Acc.wf_pre hwf).1 h

theorem acc_eof (α : Acc) (hwf : α.wf = true) (s : Scan) (h : ¬ s.pos < s.input.size) : (α.run s).2 = false := by
  cases hx : (α.run s).2 with
  | false => rfl
  | true =>
    cases α with
    | chars c => exact absurd (accept_true_lt s c (Acc.wf_chars hwf).1 hx) h
    | pre p => have := (acceptPrefix_true hx).2.1; have := (Acc.wf_pre hwf).1; omega

/-- run the action of the first row whose acceptor succeeds, else the default; the action is given the state before the
    acceptor ran and the state after -/
def dispatch {ρ β : Type} (acc : ρ → Acc) (act : ρ → Scan → Scan → β) (dflt : Scan → β) : List ρ → Scan → β
  | [], s => dflt s
  | r :: rs, s => if ((acc r).run s).2 = true then act r s ((acc r).run s).1 else dispatch acc act dflt rs s

theorem dispatch_ind {ρ β : Type} {acc : ρ → Acc} {act : ρ → Scan → Scan → β} {dflt : Scan → β} {Q : β → Prop}
    (s : Scan) : ∀ (rows : List ρ), (∀ r ∈ rows, ((acc r).run s).2 = true → Q (act r s ((acc r).run s).1)) →
    Q (dflt s) → Q (dispatch acc act dflt rows s) := by
  intro rows
  induction rows with
  | nil => intro _ hd; exact hd
  | cons r rs ih =>
    intro hr hd
    unfold dispatch
    by_cases h : ((acc r).run s).2 = true
    · rw [if_pos h]; exact hr r List.mem_cons_self h
    · rw [if_neg h]; exact ih (fun r' hm => hr r' (List.mem_cons_of_mem _ hm)) hd

theorem dispatch_rel {ρ β γ : Type} {acc : ρ → Acc} {fa : ρ → Scan → Scan → β} {fb : ρ → Scan → Scan → γ} {da : Scan → β}
    {db : Scan → γ} {R : β → γ → Prop} (a b : Scan) : ∀ (rows : List ρ), (∀ r ∈ rows, ((acc r).run b).2 = ((acc r).run a).2) →
    (∀ r ∈ rows, ((acc r).run a).2 = true → R (fa r a ((acc r).run a).1) (fb r b ((acc r).run b).1)) →
    R (da a) (db b) → R (dispatch acc fa da rows a) (dispatch acc fb db rows b) := by
  intro rows
  induction rows with
  | nil => intro _ _ hd; exact hd
  | cons r rs ih =>
    intro hc hr hd
    unfold dispatch
    rw [hc r List.mem_cons_self]
    by_cases h : ((acc r).run a).2 = true
    · rw [if_pos h, if_pos h]; exact hr r List.mem_cons_self h
    · rw [if_neg h, if_neg h]
      exact ih (fun r' hm => hc r' (List.mem_cons_of_mem _ hm)) (fun r' hm => hr r' (List.mem_cons_of_mem _ hm)) hd

theorem dispatch_first {ρ β : Type} {acc : ρ → Acc} {act : ρ → Scan → Scan → β} {dflt : Scan → β} (s : Scan) (r : ρ)
    (h : ((acc r).run s).2 = true) : ∀ (rows : List ρ) (k : Nat), rows[k]? = some r →
    (∀ q ∈ rows.take k, ((acc q).run s).2 = false) → dispatch acc act dflt rows s = act r s ((acc r).run s).1
  | [], _, hr, _ => by cases hr
  | q :: qs, 0, hr, _ => by cases hr; unfold dispatch; rw [if_pos h]
  | q :: qs, k + 1, hr, hq => by
    unfold dispatch
    rw [if_neg (by rw [hq q List.mem_cons_self]; exact Bool.false_ne_true)]
    exact dispatch_first s r h qs k hr fun q' hm => hq q' (List.mem_cons_of_mem _ hm)

theorem dispatch_none {ρ β : Type} {acc : ρ → Acc} {act : ρ → Scan → Scan → β} {dflt : Scan → β} (s : Scan) (rows : List ρ)
    (h : ∀ q ∈ rows, ((acc q).run s).2 = false) : dispatch acc act dflt rows s = dflt s :=
  dispatch_ind (Q := (· = dflt s)) s rows (fun q hq ha => by rw [h q hq] at ha; cases ha) rfl

theorem wf_digit : (Acc.chars digitChars).wf = true := by rw [Acc.wf, high_digit.nul, high_digit.nl]; rfl
theorem wf_letter : (Acc.chars letterChars).wf = true := by rw [Acc.wf, high_letter.nul, high_letter.nl]; rfl

/-- the kinds of rows of the loop of `lex_expression`.  They are also rows of `lex_initial`, but a type of their own:
    the `word` row of `lex_initial` leads to `lex_opcode` and from there back into `lex_expression`, so what is proved
    of these rows has to be available before that loop is walked. -/
inductive ERow
  | tok (α : Acc) (ty : TokTy) (h : α.wf = true)
  | number
  | ident

def ERow.acc : ERow → Acc
  | .tok α _ _ => α
  | .number => .chars digitChars
  | .ident => .chars letterChars

def ERow.act : ERow → Scan → SR
  | .tok _ ty _, s => pure (s.emit ty)
  | .number, s => lexNumber s
  | .ident, s => lexIdentifier s

theorem ERow.acc_wf : ∀ (e : ERow), e.acc.wf = true
  | .tok _ _ h => h
  | .number => wf_digit
  | .ident => wf_letter

inductive Row
  | expr (e : ERow)
  | tok2 (c : Char) (c2 : List Char) (t2 t1 : TokTy) (h : (Acc.chars [c]).wf = true) (h2 : (Acc.chars c2).wf = true)
  | word (cfg : ScanCfg)
  | keyword (cfg : ScanCfg)
  | quoted
  | lineComment
  | blockComment

abbrev Row.tok (α : Acc) (ty : TokTy) (h : α.wf = true) : Row := .expr (.tok α ty h)

def Row.acc : Row → Acc
  | .expr e => e.acc
  | .tok2 c _ _ _ _ _ => .chars [c]
  | .word _ => .chars letterChars
  | .keyword _ => .chars ['.']
  | .quoted => .chars ['\'']
  | .lineComment => .chars [';']
  | .blockComment => .pre ['/', '*']

theorem Row.acc_wf : ∀ (row : Row), row.acc.wf = true
  | .expr e => e.acc_wf
  | .tok2 _ _ _ _ h _ => h
  | .word _ => wf_letter
  | .keyword _ => rfl
  | .quoted => rfl
  | .lineComment => rfl
  | .blockComment => rfl

/-- one character was consumed: a second one makes it the token `t2`, else it is `t1` (`*=`, `{{`, `}}`) -/
def emit2 (c2 : List Char) (t2 t1 : TokTy) (s : Scan) : Scan :=
  if (s.accept c2).2 = true then (s.accept c2).1.emit t2 else s.emit t1

/-- the rest of a `;` comment, resp. of a `/*` comment whose opening was consumed -/
def lexLineComment (n : Nat) (s : Scan) : SR := lineCommentLoop n s >>= fun s2 => pure (s2.emit .COMMENT)
def lexBlockComment (n : Nat) (s : Scan) : SR :=
  blockCommentLoop (s.err "Unterminated Comment") n s >>= fun s2 => pure (s2.emit .COMMENT)

/-- a letter was consumed: give it back, then an opcode or an identifier -/
def lexWord (cfg : ScanCfg) (s : Scan) : SR :=
  if (acceptOpcode cfg s.backup).2 = true then lexOpcode cfg (acceptOpcode cfg s.backup).1 else lexIdentifier s.backup

/-- `t` is the state before the acceptor ran, `s` the state after: `lex_initial` computes the fuel of the comment
    loops before it tests anything -/
def Row.act : Row → Scan → Scan → SR
  | .expr e, _, s => e.act s
  | .tok2 _ c2 t2 t1 _ _, _, s => pure (emit2 c2 t2 t1 s)
  | .word cfg, _, s => lexWord cfg s
  | .keyword cfg, _, s => lexKeyword cfg s
  | .quoted, _, s => lexQuotedString s
  | .lineComment, t, s => lexLineComment (t.input.size - t.pos + 2) s
  | .blockComment, t, s => lexBlockComment (t.input.size - t.pos + 2) s

/-- the branches of `lex_initial` after the leading blanks, in the order of the code -/
def initRows (cfg : ScanCfg) : List Row :=
  [.lineComment, .expr .number,
   .tok (.chars ['+', '-', '&']) .OPERATOR rfl, .tok (.pre ['=', '=']) .OPERATOR rfl, .tok (.pre ['!', '=']) .OPERATOR rfl,
   .tok (.pre ['>', '>']) .OPERATOR rfl, .tok (.pre ['<', '<']) .OPERATOR rfl, .tok (.pre ['>']) .OPERATOR rfl,
   .tok (.pre ['<']) .OPERATOR rfl,
   .word cfg, .keyword cfg,
   .tok (.chars [',']) .COMMA rfl, .tok (.pre [':', '=']) .ASSIGN rfl, .tok (.pre ['@', '=']) .AT_EQ rfl,
   .tok2 '*' ['='] .STAR_EQ .OPERATOR rfl rfl,
   .quoted,
   .tok (.chars ['(']) .LPAREN rfl, .tok (.chars [')']) .RPAREN rfl, .tok (.chars ['[']) .LBRAKET rfl,
   .tok (.chars [']']) .RBRAKET rfl,
   .tok2 '{' ['{'] .DOUBLE_LBRACE .LBRACE rfl rfl, .tok2 '}' ['}'] .DOUBLE_RBRACE .RBRACE rfl rfl,
   .tok (.chars ['=']) .EQUAL rfl,
   .blockComment]

theorem initRows_word {cfg c : ScanCfg} (hm : .word c ∈ initRows cfg) : c = cfg := by
  simp only [initRows, List.mem_cons, reduceCtorEq, Row.word.injEq, false_or, List.not_mem_nil, or_false] at hm
  exact hm

/-- no row of `lex_initial` matches: one more character is an error, the end of the input is not -/
def initDefault (s : Scan) : SR :=
  if ((s.next).2 != none) = true then
    .error (invalidInput (s.next).1, (s.next).1)
  else pure (s.next).1

theorem initDefault_eq (s : Scan) :
    initDefault s = if s.pos < s.input.size then .error (invalidInput (s.next).1, (s.next).1) else .ok s := by
  unfold initDefault
  by_cases h : s.pos < s.input.size
  · rw [if_pos h, next_snd s h]; rfl
  · rw [if_neg h, (next_pos_ge s h).1, (next_pos_ge s h).2]; rfl

theorem lexInitial_eq (cfg : ScanCfg) (s : Scan) :
    lexInitial cfg s = s.ignoreRun [' ', '\t', '\n'] >>= dispatch Row.acc Row.act initDefault (initRows cfg) := by
  unfold lexInitial
  simp only []
  rfl

/-- the branches of the loop of `lex_expression`, in the order of the code -/
def exprRows : List ERow :=
  [.number, .ident, .tok (.chars (chars "+-*/&|~")) .OPERATOR rfl, .tok (.pre (chars "<<")) .OPERATOR rfl,
   .tok (.pre (chars ">>")) .OPERATOR rfl, .tok (.chars ['(']) .LPAREN rfl, .tok (.chars [')']) .RPAREN rfl]

/-- consume the next character and emit its token when it is one of the listed ones -/
def bracket : List (Char × TokTy) → Scan → Scan
  | [], s => s
  | (c, ty) :: l, s => if (s.peek == c) = true then (s.next).1.emit ty else bracket l s

/-- an optional `, index` -/
def optIndex (s : Scan) : SR :=
  if (s.accept [',']).2 = true then lexOpcodeIndex (s.accept [',']).1 else pure s

theorem lexOperand_eq (s : Scan) :
    lexOperand s = (do
      let s ← (bracket [('#', .SHARP), ('(', .LPAREN), ('[', .LBRAKET)] s).ignoreRun [' ']
      let s ← lexExpression s
      let s ← s.ignoreRun [' ']
      let s ← optIndex s
      let s ← (bracket [(')', .RPAREN), (']', .RBRAKET)] s).ignoreRun [' ']
      optIndex s) := by
  unfold lexOperand
  simp only [optIndex, ite_bind]
  rfl

/-- what follows the OPCODE token: optional size suffix, blanks, operand -/
def opTail (s : Scan) : SR :=
  (if (s.accept ['.']).2 = true then lexOpcodeSize (s.accept ['.']).1 else pure s) >>= fun s =>
    s.ignoreRun [' '] >>= lexOperand

/-- the look-ahead of `lex_opcode` for a mnemonic that may stand alone: blanks, then a `;` comment up to the end of the line -/
def nakedAhead (s : Scan) : SR := do
  let s1 ← s.acceptRun [' ', '\t']
  if (s1.accept [';']).2 = true then (s1.accept [';']).1.acceptRun ['\n', '\x00'] true else pure (s1.accept [';']).1

/-- whatever every `accept` that takes no newline keeps, the look-ahead keeps -/
theorem nakedAhead_ind {P : Scan → Prop}
    (hstep : ∀ (u : Scan) (c : List Char) (n : Bool), (if n then c.contains '\n' = true else c.contains '\n' = false) →
      P u → P (u.accept c n).1) {s s3 : Scan} (hs : P s) (h : nakedAhead s = .ok s3) : P s3 := by
  unfold nakedAhead at h
  obtain ⟨s1, h1, h2⟩ := bind_ok h
  have p1 := hstep s1 [';'] false (by decide) (acceptRun_ind (fun u hu _ => hstep u _ _ (by decide) hu) hs h1).1
  split at h2
  · exact (acceptRun_ind (fun u hu _ => hstep u _ _ (by decide) hu) p1 h2).1
  · cases h2; exact p1

theorem lexOpcode_eq (cfg : ScanCfg) (s : Scan) :
    lexOpcode cfg s =
      if (cfg.noOperand.contains (asciiLower (s.slice s.start s.pos)) && s.peek != '.') = true then do
        let s3 ← nakedAhead s
        if (s3.peek == '\n' || s3.peek == '\x00') = true then pure (({ s3 with pos := s.pos } : Scan).emit .OPCODE_NAKED)
        else opTail (({ s3 with pos := s.pos } : Scan).emit .OPCODE)
      else opTail (s.emit .OPCODE) := by
  unfold lexOpcode
  simp only [nakedAhead, opTail, ite_bind, bind_assoc]
  rfl

/-- what `lex_identifier` does after the run of identifier characters -/
def identTail (s : Scan) : SR :=
  if (s.peek == ':' && s.peek 1 != '=') = true then pure ((s.emit .LABEL).next.1.ignore)
  else if (s.peek == '.') = true then (s.next).1.acceptRun identChars >>= fun s => pure (s.emit .IDENTIFIER)
  else pure (s.emit .IDENTIFIER)

theorem lexIdentifier_eq (s : Scan) : lexIdentifier s = s.acceptRun identChars >>= identTail := by
  unfold lexIdentifier
  rfl

/-- can the acceptor take a text whose first character satisfies `q`? -/
def Acc.starts (q : Char → Bool) : Acc → Bool
  | .chars c => c.any q
  | .pre [] => true
  | .pre (x :: _) => q x

theorem acc_starts_false (α : Acc) (s : Scan) (q : Char → Bool) (hq : q s.peek = true) (h : α.starts q = false) :
    (α.run s).2 = false := by
  cases α with
  | chars c =>
    show (s.accept c).2 = false
    rw [accept_snd]
    cases hc : c.contains s.peek with
    | false => rfl
    | true =>
      have : c.any q = true := List.any_eq_true.mpr ⟨_, List.contains_iff_mem.mp hc, hq⟩
      rw [show c.any q = false from h] at this
      cases this
  | pre p =>
    cases p with
    | nil => cases h
    | cons x p =>
      cases hx : (s.acceptPrefix (x :: p)).2 with
      | false => exact hx
      | true =>
        obtain ⟨h1, h2, _⟩ := acceptPrefix_true hx
        have hlt : s.pos < s.input.size := by rw [List.length_cons] at h2; omega
        rw [drop_peek s hlt, List.length_cons, List.take_succ_cons] at h1
        rw [(List.cons.inj h1).1, show q x = false from h] at hq
        cases hq

/-- in front of a character that starts neither a blank nor one of the first `k` branches of `lex_initial`, branch `k` runs
    if it accepts.  The acceptors do not depend on the configuration, so the side condition is closed and a character
    class is evaluated once.  Callers give `k` as a numeral, the position of `r` in `initRows`; their `rfl` for `hr` checks it. -/
theorem lexInitial_row (cfg : ScanCfg) (s : Scan) (hst : s.start = s.pos) (q : Char → Bool) (hq : q s.peek = true) (k : Nat)
    (hk : ((Acc.chars [' ', '\t', '\n'] :: ((initRows ⟨[], [], []⟩).map Row.acc).take k).all fun α => !α.starts q) = true)
    (r : Row) (hr : (initRows cfg)[k]? = some r) (h : (r.acc.run s).2 = true) :
    lexInitial cfg s = r.act s (r.acc.run s).1 := by
  rw [List.all_cons, Bool.and_eq_true, Bool.not_eq_eq_eq_not, Bool.not_true] at hk
  rw [lexInitial_eq, ignoreRun_of_not s _ hst (acc_starts_false (.chars _) s q hq hk.1), ok_bind]
  refine dispatch_first s r h _ k hr fun x hx => acc_starts_false _ s q hq ?_
  have hm : x.acc ∈ ((initRows ⟨[], [], []⟩).map Row.acc).take k := by
    rw [show (initRows ⟨[], [], []⟩).map Row.acc = (initRows cfg).map Row.acc from rfl, ← List.map_take]
    exact List.mem_map_of_mem hx
  have := List.all_eq_true.mp hk.2 _ hm
  rwa [Bool.not_eq_eq_eq_not, Bool.not_true] at this

end A816.ScanB

namespace A816.ScanS
open A816 Scan ScanB

-- Here and in the walk files: a tactic that reduces a field of `(s.accept c).1`, or whnfs a goal that speaks of the result of
-- `lexNumber`, would run `accept` on the literal candidate sets; nothing needs them unfolded except by `unfold`.
seal Scan.accept

/-- one iteration of the loop of `lex_expression` after the blanks were skipped: the state to go on with, or the state
    the loop returns (`true` = go on) -/
def exprIter (s : Scan) : Except (Err × Scan) (Scan × Bool) :=
  let (s1, a) := s.accept digitChars
  if a then (lexNumber s1).map fun x => (x, true)
  else
    let (s1, a) := s.accept letterChars
    if a then (lexIdentifier s1).map fun x => (x, true)
    else
      let (s1, a) := s.accept (chars "+-*/&|~")
      let (s1, a) := if a then (s1, true) else
        let (s2, b) := s.acceptPrefix (chars "<<")
        if b then (s2, true) else s.acceptPrefix (chars ">>")
      if a then .ok (s1.emit .OPERATOR, true)
      else
        let (s1, a) := s.accept ['(']
        if a then .ok (s1.emit .LPAREN, true)
        else
          let (s1, a) := s.accept [')']
          if a then .ok (s1.emit .RPAREN, true)
          else .ok (s, false)

/-- what the loop does with the outcome of one iteration -/
def exprCont (n : Nat) : Except (Err × Scan) (Scan × Bool) → SR
  | .error e => .error e
  | .ok (x, true) => lexExpressionLoop n x
  | .ok (x, false) => .ok x

theorem exprCont_map (n : Nat) (r : SR) : exprCont n (r.map fun x => (x, true)) = r >>= lexExpressionLoop n := by
  cases r <;> rfl

theorem lexExpressionLoop_succ (n : Nat) (s : Scan) :
    lexExpressionLoop (n + 1) s =
      (if s.pos < s.input.size then
        match s.ignoreRun [' '] with
        | .error e => .error e
        | .ok t => exprCont n (exprIter t)
      else .ok s) := by
  rw [lexExpressionLoop]
  by_cases hlt : s.pos < s.input.size
  · rw [if_pos hlt, if_pos hlt]
    cases s.ignoreRun [' '] with
    | error e => rfl
    | ok t =>
      show _ = exprCont n (exprIter t)
      -- `exprIter` is the body of the loop with the continuation taken out: `exprCont n` moves into its branches
      unfold exprIter
      simp only [apply_ite (exprCont n), exprCont_map]
      rfl
  · rw [if_neg hlt, if_neg hlt]

theorem exprIter_eq (t : Scan) :
    exprIter t = dispatch ERow.acc (fun e _ s1 => (e.act s1).map fun x => (x, true)) (fun s => .ok (s, false)) exprRows t := by
  unfold exprIter
  simp only [exprRows, dispatch, ERow.acc, ERow.act, Acc.run]
  -- the model tests the three operator acceptors in one step
  by_cases h1 : (t.accept (chars "+-*/&|~")).2 = true
  · simp only [h1, ↓reduceIte]; rfl
  · by_cases h2 : (t.acceptPrefix (chars "<<")).2 = true
    · simp only [h1, h2, Bool.false_eq_true, ↓reduceIte]; rfl
    · simp only [h1, h2, Bool.false_eq_true, ↓reduceIte]; rfl

theorem lexExpressionLoop_step (n : Nat) (s : Scan) :
    lexExpressionLoop (n + 1) s =
      if s.pos < s.input.size then
        s.ignoreRun [' '] >>= dispatch ERow.acc (fun e _ s1 => e.act s1 >>= lexExpressionLoop n) pure exprRows
      else .ok s := by
  rw [lexExpressionLoop_succ]
  split
  · cases s.ignoreRun [' '] with
    | error e => rfl
    | ok t =>
      show exprCont n (exprIter t) = dispatch ERow.acc (fun e _ s1 => e.act s1 >>= lexExpressionLoop n) pure exprRows t
      rw [exprIter_eq]
      exact dispatch_rel (R := fun y x => exprCont n y = x) t t exprRows (fun _ _ => rfl) (fun _ _ _ => exprCont_map n _) rfl
  · rfl

/-- what `Scanner.scan` makes of the result of its loop -/
def finish (r : Except (Err × Scan) Scan) : ScanResult :=
  match r with
  | .ok s =>
    let s := (s.emit .EOF).handleLine
    ⟨s.toks, s.lines, none⟩
  | .error (.outOfFuel, s) => ⟨s.toks, s.lines, some .outOfFuel⟩
  | .error (e, s) =>
    match s.acceptRun ['\n', '\x00'] true with
    | .ok s2 => let s3 := s2.handleLine; ⟨s3.toks, s3.lines, some e⟩
    | .error _ => ⟨s.toks, s.lines, some .outOfFuel⟩

/-- the state `Scanner.scan` starts in -/
def initState (file : Nat) (input : List Char) : Scan := { input := input.toArray, file := file }

theorem scan_eq_finish (cfg : ScanCfg) (st : ScanState) (file : Nat) (input : List Char) :
    scan cfg st file input = finish (scanLoop cfg st (input.length + 1) (initState file input)) := by
  rfl

theorem finish_ok (s : Scan) : (finish (.ok s)).toks = (s.emit .EOF).toks ∧ (finish (.ok s)).error = none :=
  ⟨handleLine_toks _, rfl⟩

/-- the handler of `Scanner.scan` keeps the tokens and re-raises the exception -/
theorem finish_error (e : Err) (s : Scan) :
    (finish (.error (e, s))).toks = s.toks ∧ (finish (.error (e, s))).error = some e := by
  obtain ⟨s2, h2, _, _⟩ := acceptRun_ok s ['\n', '\x00'] true he_eol
  have ht := acceptRun_toks h2
  cases e <;> simp only [finish, h2, handleLine_toks, ht, and_self]

end A816.ScanS
