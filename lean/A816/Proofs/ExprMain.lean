import A816.Proofs.ExprLiteral
/-! The fused machine of `Proofs/Expr` on the printout of a well-formed tree (`frun_print`); with `fuse`, `eval_expression` on
the printout returns the tree's value (`evalTokens_print`). -/
namespace A816
open Spec

/-- model-level well-formedness (levels measured by the operator table) -/
def mWF (P : BOp → Nat) : Expr → Prop
  | .num l => l.WF
  | .var _ => True
  | .paren e => mWF P e
  | .un _ e => mWF P e ∧ mlevel P e ≤ 2
  | .bin o l r => mWF P l ∧ mWF P r ∧ mlevel P l ≤ P o ∧ mlevel P r < P o

theorem Spec.BOp.two_le_level (o : BOp) : 2 ≤ o.level := by cases o <;> decide

theorem mWF_of_WF {prec : PrecTable} (hp : PrecOK prec) (e : Expr) (wf : e.WF) : mWF hp.P e := by
  induction e with
  | num l => exact wf
  | var x => trivial
  | paren e ih => exact ih wf
  | un o e ih =>
    obtain ⟨h1, h2⟩ := wf
    refine ⟨ih h1, ?_⟩
    cases e with
    | bin o' _ _ => exact absurd (Nat.le_trans o'.two_le_level h2) (by decide)
    | _ => simp [mlevel]
  | bin o l r ihl ihr =>
    obtain ⟨h1, h2, h3, h4⟩ := wf
    refine ⟨ihl h1, ihr h2, ?_, ?_⟩
    · cases l with
      | bin o' _ _ => simp only [Expr.level] at h3; simp only [mlevel]; exact (hp.mono o' o).mp h3
      | un _ _ => simp only [mlevel]; have := hp.gt2 o; omega
      | _ => simp [mlevel]
    · cases r with
      | bin o' _ _ => simp only [Expr.level] at h4; simp only [mlevel]; exact (hp.lt o' o).mp h4
      | un _ _ => simp only [mlevel]; exact hp.gt2 o
      | _ => simp only [mlevel]; have := hp.gt2 o; omega

/-- operators of a sub-expression that are still on the stack: none is "(", each ranks `≤ ℓ` -/
def Pending (prec : PrecTable) (ℓ : Nat) (pending : List ENode) : Prop :=
  ∀ n ∈ pending, (n.text == "(") = false ∧ ∃ q, stackPrec prec n = some q ∧ q ≤ ℓ

theorem fpop_pending (look : String → Look) (prec : PrecTable) (p ℓ : Nat) (hℓ : ℓ ≤ p)
    (pending stack : List ENode) (hpend : Pending prec ℓ pending) :
    ∀ (ws ws' : List Int), rpnRun look ws pending = .ok ws' →
      fpop look prec p ws (pending ++ stack) = fpop look prec p ws' stack := by
  induction pending with
  | nil => intro ws ws' h; cases h; rfl
  | cons top rest ih =>
    intro ws ws' h
    obtain ⟨hpar, q, hq1, hq2⟩ := hpend top (by simp)
    obtain ⟨ws1, ha, h⟩ := rpnRun_cons_ok h
    have hqp : q ≤ p := by omega
    rw [List.cons_append]
    conv => lhs; unfold fpop
    simp only [hpar, Bool.false_eq_true, ↓reduceIte, hq1, hqp, ha]
    exact ih (fun n hn => hpend n (List.mem_cons_of_mem _ hn)) ws1 ws' h

theorem fpopParen_pending (look : String → Look) (prec : PrecTable) (ℓ : Nat)
    (pending stack : List ENode) (hpend : Pending prec ℓ pending) :
    ∀ (ws ws' : List Int), rpnRun look ws pending = .ok ws' →
      fpopParen look ws (pending ++ .lparen :: stack) = .ok (ws', stack) := by
  induction pending with
  | nil => intro ws ws' h; cases h; rfl
  | cons top rest ih =>
    intro ws ws' h
    obtain ⟨hpar, _⟩ := hpend top (by simp)
    obtain ⟨ws1, ha, h⟩ := rpnRun_cons_ok h
    rw [List.cons_append]
    conv => lhs; unfold fpopParen
    simp only [hpar, Bool.false_eq_true, ↓reduceIte, ha]
    exact ih (fun n hn => hpend n (List.mem_cons_of_mem _ hn)) ws1 ws' h

/-- the operator applied last, put under the pending operators of its last operand -/
theorem Pending.snoc {prec : PrecTable} {a b q : Nat} {l : List ENode} {n : ENode} (hl : Pending prec a l) (hab : a ≤ b)
    (hpar : (n.text == "(") = false) (hq : stackPrec prec n = some q) (hqb : q ≤ b) : Pending prec b (l ++ [n]) :=
  fun m hm => by
    rcases List.mem_append.mp hm with hm | hm
    · obtain ⟨h1, q', h2, h3⟩ := hl m hm
      exact ⟨h1, q', h2, Nat.le_trans h3 hab⟩
    · obtain rfl := List.mem_singleton.mp hm
      exact ⟨hpar, q, hq, hqb⟩

/-- Running the fused machine over the printout of a well-formed tree with value `v` leaves the
    machine with `v` computable from its value stack by applying the (not yet applied) operators of
    the tree's right spine, all of which rank at most the tree's level. -/
theorem frun_print {prec : PrecTable} (hp : PrecOK prec) (env : String → Option Int) (e : Expr)
    (wf : mWF hp.P e) (v : Int) (hv : eval env e = some v) (vs : List Int) (stack : List ENode)
    (htop : topOk prec (inner hp.P e) stack) :
    ∃ ws pending, frun (lookOf env) prec (vs, stack) (printNodes e) = .ok (ws, pending ++ stack) ∧
      Pending prec (mlevel hp.P e) pending ∧ rpnRun (lookOf env) ws pending = .ok (v :: vs) := by
  induction e generalizing v vs stack with
  | num l =>
    simp only [eval, Option.some.injEq] at hv
    refine ⟨v :: vs, [], ?_, nofun, rfl⟩
    simp [printNodes, frun, fstep, applyNode, evalNumber_render l wf, hv]
  | var x =>
    simp only [eval] at hv
    refine ⟨v :: vs, [], ?_, nofun, rfl⟩
    simp [printNodes, frun, fstep, applyNode, lookOf, hv]
  | paren e ih =>
    simp only [eval] at hv
    obtain ⟨ws, pending, h1, h2, h3⟩ := ih wf v hv vs (.lparen :: stack) (Or.inl rfl)
    refine ⟨v :: vs, [], ?_, nofun, rfl⟩
    have hclose := fpopParen_pending (lookOf env) prec _ pending stack h2 ws (v :: vs) h3
    simp only [printNodes, List.cons_append, frun, fstep]
    rw [frun_append, h1]
    simp [frun, fstep, hclose]
  | un o e ih =>
    obtain ⟨hw1, hw2⟩ := wf
    obtain ⟨a, hve, hv⟩ := Option.bind_eq_some_iff.mp hv
    have htop' : topOk prec (inner hp.P e) (.unop o.sym :: stack) := by
      refine Or.inr ⟨2, rfl, ?_⟩
      cases e with
      | bin o' _ _ => simp only [mlevel] at hw2; have := hp.gt2 o'; omega
      | _ => simp [inner]
    obtain ⟨ws, pending, h1, h2, h3⟩ := ih hw1 a hve vs (.unop o.sym :: stack) htop'
    refine ⟨ws, pending ++ [.unop o.sym], ?_, h2.snoc hw2 (usym_ne_paren o) rfl (Nat.le_refl 2), ?_⟩
    · simp only [printNodes, frun, fstep]
      rw [h1]; simp
    · rw [rpnRun_append, h3]
      simp [rpnRun, applyNode_unop (lookOf env) o a v vs hv]
  | bin o l r ihl ihr =>
    obtain ⟨hwl, hwr, hll, hrl⟩ := wf
    obtain ⟨a, hvl, hv⟩ := Option.bind_eq_some_iff.mp hv
    obtain ⟨b, hvr, hv⟩ := Option.bind_eq_some_iff.mp hv
    simp only [inner] at htop
    obtain ⟨ws1, pend1, h1, h2, h3⟩ := ihl hwl a hvl vs stack
      (topOk_mono (by have := inner_le_mlevel hp.P l; omega) stack htop)
    -- the incoming operator pops all of the left operand's pending operators and nothing else
    have hpop : fpop (lookOf env) prec (hp.P o) ws1 (pend1 ++ stack) = .ok (a :: vs, stack) := by
      rw [fpop_pending (lookOf env) prec (hp.P o) _ hll pend1 stack h2 ws1 (a :: vs) h3]
      exact fpop_stable htop
    have hsp : stackPrec prec (.binop o.sym) = some (hp.P o) := by simp [stackPrec, ENode.text, hp.hP o]
    have htop2 : topOk prec (inner hp.P r) (.binop o.sym :: stack) :=
      Or.inr ⟨hp.P o, hsp, by have := inner_le_mlevel hp.P r; omega⟩
    obtain ⟨ws2, pend2, h4, h5, h6⟩ := ihr hwr b hvr (a :: vs) (.binop o.sym :: stack) htop2
    refine ⟨ws2, pend2 ++ [.binop o.sym], ?_, h5.snoc (Nat.le_of_lt hrl) (bsym_ne_paren o) hsp (Nat.le_refl _), ?_⟩
    · simp only [printNodes]
      rw [frun_append, h1]
      simp only [frun, fstep, hp.hP o, hpop]
      rw [h4]; simp
    · rw [rpnRun_append, h6]
      simp [rpnRun, applyNode_binop (lookOf env) o a b v vs hv]

/-- a well-formed tree with value `v`: `eval_expression` on its printout returns `v` -/
theorem evalTokens_print {prec : PrecTable} (hp : PrecOK prec) (env : String → Option Int) (e : Expr)
    (wf : e.WF) (v : Int) (hv : eval env e = some v) :
    evalTokens prec (lookOf env) (printNodes e) = .ok v := by
  obtain ⟨ws, pending, h1, _, h3⟩ := frun_print hp env e (mWF_of_WF hp e wf) v hv [] [] trivial
  rw [List.append_nil] at h1
  exact fuse (lookOf env) prec (printNodes e) ws pending v [] h1 h3

end A816
