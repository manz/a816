/-!
# Facts about `List.drop`, `List.dropWhile` and `List.all` that the scanner proofs share

The scanner proofs describe the text in front of the scanner as `input.drop pos = …`; these lemmas turn such an equation into
bounds on `pos` and into the equation a few characters further on.
-/
namespace A816
variable {α : Type}

theorem lt_of_drop_eq_cons {l t : List α} {c : α} {n : Nat} (h : l.drop n = c :: t) : n < l.length :=
  Decidable.byContradiction fun hc => by rw [List.drop_of_length_le (by omega)] at h; cases h

theorem drop_add_of_eq_append {l a b : List α} {n : Nat} (h : l.drop n = a ++ b) : l.drop (n + a.length) = b := by
  rw [← List.drop_drop, h, List.drop_left]

theorem add_le_of_drop_eq_append {l a b : List α} {n : Nat} (h : l.drop n = a ++ b) (ha : a ≠ []) :
    n + a.length ≤ l.length := by
  have h1 := congrArg List.length h
  rw [List.length_drop, List.length_append] at h1
  have h2 : 0 < a.length := List.length_pos_iff.mpr ha
  omega

theorem dropWhile_nil_all (q : α → Bool) : ∀ (l : List α), l.dropWhile q = [] → l.all q = true
  | [], _ => rfl
  | c :: l, h => by
    by_cases hc : q c = true
    · rw [List.dropWhile_cons_of_pos hc] at h
      rw [List.all_cons, hc, Bool.true_and]; exact dropWhile_nil_all q l h
    · rw [List.dropWhile_cons_of_neg hc] at h; cases h

theorem all_of_eq_or {l : List α} {a b : α} (h : ∀ c ∈ l, c = a ∨ c = b) {q : α → Bool} (ha : q a = true) (hb : q b = true) :
    l.all q = true :=
  List.all_eq_true.mpr fun c hc => (h c hc).elim (fun e => e ▸ ha) fun e => e ▸ hb

end A816
