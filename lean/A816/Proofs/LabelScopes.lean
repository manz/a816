import A816.Proofs.Replay
import A816.Proofs.Emit
/-!
# The label and symbol tables of every scope through the passes (node lists with scope markers)

A pass moves between scopes as the `ScopeNode` / `PopScopeNode` markers say, writes a name into the scope that is current
when the defining node is visited, and — leaving a named scope — copies `scope.key` entries (keys that contain a dot) into
the parent's `symbols`.  `KeptAt D k` says what a traversal leaves untouched in scope `k`, for the names `D` that no export
can be written under (`KeepsAt k` is `D = NoDot`; for a list without `PopScopeNode` every name qualifies).  A write into a
scope that does not exist changes nothing, so the frame needs no hypothesis on the current scope.  `pass1_def`: the value
the label pass leaves for a label or an `.incbin` start symbol; `passLoop_keeps`: the case of a list without markers
(`LabelCheck.Flat`), where the pass stays in one scope (`LabelCheck.Keeps`); `Replay.passLoop_replay`: its replay part alone;
emission never touches the scope array and follows the replay (`emitLoop_scopes_replay`).
-/
namespace A816.LabelCheck
open A816 Resolver

/-- what a pass that stays in one scope leaves as it was: the scope index, the size of the scope array, the run address, and
    the tables of that scope but for the names in `labs` / `syms` -/
structure Keeps (r r' : Resolver) (labs syms : List String) : Prop where
  cur : r'.current = r.current
  size : r'.scopes.size = r.scopes.size
  code : r'.cur.codeSymbols = r.cur.codeSymbols
  parent : r'.cur.parent = r.cur.parent
  reloc : r'.reloc = r.reloc
  labels : ∀ x, x ∉ labs → alookup x r'.cur.labels = alookup x r.cur.labels
  symbols : ∀ x, x ∉ syms → alookup x r'.cur.symbols = alookup x r.cur.symbols

end A816.LabelCheck

namespace A816.LabelScopes
open A816 LabelCheck Replay Resolver

/-- the name contains no `.` (exports of named scopes are written under keys that do) -/
def NoDot (x : String) : Prop := '.' ∉ x.toList

theorem ne_dotted (x sc key : String) (h : NoDot x) : x ≠ sc ++ "." ++ key := by
  intro e
  apply h
  rw [e, String.toList_append, String.toList_append]
  simp

/-- what a traversal leaves untouched in scope `k` -/
structure KeepsAt (k : Nat) (r r' : Resolver) (labs syms : List String) : Prop where
  code : (r'.scopeAt k).codeSymbols = (r.scopeAt k).codeSymbols
  parent : (r'.scopeAt k).parent = (r.scopeAt k).parent
  labels : ∀ x, x ∉ labs → alookup x (r'.scopeAt k).labels = alookup x (r.scopeAt k).labels
  symbols : ∀ x, x ∉ syms → NoDot x → alookup x (r'.scopeAt k).symbols = alookup x (r.scopeAt k).symbols

theorem KeepsAt.mono {k : Nat} {r r' : Resolver} {a b a' b' : List String} (h : KeepsAt k r r' a b)
    (ha : ∀ x, x ∈ a → x ∈ a') (hb : ∀ x, x ∈ b → x ∈ b') : KeepsAt k r r' a' b' :=
  ⟨h.code, h.parent, fun x hx => h.labels x (fun hh => hx (ha x hh)), fun x hx hd => h.symbols x (fun hh => hx (hb x hh)) hd⟩

variable {D : String → Prop}

/-- `KeepsAt` with the side condition on the name left open -/
structure KeptAt (D : String → Prop) (k : Nat) (r r' : Resolver) (labs syms : List String) : Prop where
  code : (r'.scopeAt k).codeSymbols = (r.scopeAt k).codeSymbols
  parent : (r'.scopeAt k).parent = (r.scopeAt k).parent
  labels : ∀ x, x ∉ labs → alookup x (r'.scopeAt k).labels = alookup x (r.scopeAt k).labels
  symbols : ∀ x, x ∉ syms → D x → alookup x (r'.scopeAt k).symbols = alookup x (r.scopeAt k).symbols

theorem KeptAt.keepsAt {k r r' a b} (h : KeptAt NoDot k r r' a b) : KeepsAt k r r' a b := ⟨h.code, h.parent, h.labels, h.symbols⟩

theorem KeptAt.of_eq {k : Nat} {r r' : Resolver} (h : r'.scopeAt k = r.scopeAt k) (a b : List String) : KeptAt D k r r' a b :=
  ⟨by rw [h], by rw [h], fun _ _ => by rw [h], fun _ _ _ => by rw [h]⟩

theorem KeptAt.trans {k : Nat} {r1 r2 r3 : Resolver} {a b c d : List String} (h1 : KeptAt D k r1 r2 a b) (h2 : KeptAt D k r2 r3 c d) :
    KeptAt D k r1 r3 (a ++ c) (b ++ d) :=
  ⟨h2.code.trans h1.code, h2.parent.trans h1.parent,
   fun x hx => (h2.labels x (fun h => hx (List.mem_append_right _ h))).trans (h1.labels x (fun h => hx (List.mem_append_left _ h))),
   fun x hx hd => (h2.symbols x (fun h => hx (List.mem_append_right _ h)) hd).trans (h1.symbols x (fun h => hx (List.mem_append_left _ h)) hd)⟩

theorem modifyCur_keptAt (r : Resolver) (f : ScopeRec → ScopeRec) (k : Nat) (labs syms : List String)
    (hc : ∀ s, (f s).codeSymbols = s.codeSymbols) (hp : ∀ s, (f s).parent = s.parent)
    (hl : ∀ s x, x ∉ labs → alookup x (f s).labels = alookup x s.labels)
    (hs : ∀ s x, x ∉ syms → alookup x (f s).symbols = alookup x s.symbols) :
    KeptAt D k r (r.modifyCur f) (if r.current = k then labs else []) (if r.current = k then syms else []) := by
  by_cases hk : r.current = k ∧ k < r.scopes.size
  · have e := scopeAt_modifyCur r f k
    rw [if_pos hk] at e
    rw [if_pos hk.1, if_pos hk.1]
    exact ⟨by rw [e, hc], by rw [e, hp], fun x hx => by rw [e, hl _ x hx], fun x hx _ => by rw [e, hs _ x hx]⟩
  · exact .of_eq (by rw [scopeAt_modifyCur, if_neg hk]) _ _

theorem addLabel_keptAt (r : Resolver) (name : String) (v : Int) (k : Nat) :
    KeptAt D k r (r.addLabel name v) (if r.current = k then [name] else []) (if r.current = k then [name] else []) :=
  modifyCur_keptAt r _ k [name] [name] (fun _ => rfl) (fun _ => rfl)
    (fun _ _ hx => alookup_ainsert_ne (mt List.mem_singleton.mpr hx)) (fun _ _ hx => alookup_ainsert_ne (mt List.mem_singleton.mpr hx))

theorem addSymbol_keptAt (r : Resolver) (name : String) (v : Int) (k : Nat) :
    KeptAt D k r (r.addSymbol name v) [] (if r.current = k then [name] else []) := by
  have := modifyCur_keptAt (D := D) r (fun s => { s with symbols := ainsert name v s.symbols }) k [] [name] (fun _ => rfl) (fun _ => rfl)
    (fun _ _ _ => rfl) (fun _ _ hx => alookup_ainsert_ne (mt List.mem_singleton.mpr hx))
  rwa [ite_self] at this

theorem leftScopes_keptAt (hD : ∀ x, D x → NoDot x) (r : Resolver) (ex : Bool) (p k : Nat) :
    KeptAt D k r { r with scopes := r.leftScopes ex p, current := p } [] [] := by
  obtain ⟨syms, hs, hsy⟩ := leftScopes_getD r ex p k
  have e : Resolver.scopeAt { r with scopes := r.leftScopes ex p, current := p } k = { r.scopeAt k with symbols := syms } := hs
  refine ⟨by rw [e], by rw [e], fun _ _ => by rw [e], fun x _ hd => ?_⟩
  rw [e]
  rcases hsy with rfl | ⟨name, _, _, _, rfl⟩
  · rfl
  · exact Unrel.exportFold_other name x _ _ fun key _ e => ne_dotted x name key (hD x hd) e.symm

/-- names the visited nodes write (by `f`) while scope `k` is current, along the positional replay over the scope
    array `S` from (current scope `c`, last used scope `l`) -/
def namesIn (f : Node → List String) (skip : Node → Bool) (S : Array ScopeRec) (k : Nat) : List Node → Nat → Nat → List String
  | [], _, _ => []
  | n :: ns, c, l =>
    (if c = k ∧ skip n = false ∧ isMarker n = false then f n else []) ++
      (match replay S [n] c l with
       | some (c', l') => namesIn f skip S k ns c' l'
       | none => [])

/-- parent links point into the array -/
def ParentsOk (S : Array ScopeRec) : Prop := ∀ i p, (S.getD i default).parent = some p → p < S.size

theorem replay_lt {S : Array ScopeRec} (hS : ParentsOk S) {ns : List Node} {c l c' l' : Nat} (hc : c < S.size)
    (h : replay S ns c l = some (c', l')) : c' < S.size := by
  fun_induction replay S ns c l with
  | case1 => cases h; exact hc
  | case2 ns c l hlt ih => exact ih hlt h
  | case3 => cases h
  | case4 ns c l p hp ih => exact ih (hS _ _ hp) h
  | case5 => cases h
  | case6 n ns c l _ _ ih => exact ih hc h

theorem pcAfter_keptAt {env : Env} {n : Node} {r r' : Resolver} {pc pc' : Address} (hD : n = .scopePop → ∀ x, D x → NoDot x)
    (h : pcAfter env n r pc = .ok (r', pc')) (k : Nat) :
    KeptAt D k r r' (if r.current = k then labelNames n else []) (if r.current = k then symNames n else []) := by
  cases pcAfter_step h with
  | enter => exact .of_eq (by rfl) _ _
  | leave => simpa only [labelNames, symNames, ite_self] using leftScopes_keptAt (hD rfl) r true _ k
  | label name => exact addLabel_keptAt r name _ k
  | binary c base =>
    have := (addLabel_keptAt (D := D) r base pc.logical k).trans (addSymbol_keptAt (r.addLabel base pc.logical) (base ++ "__size") c.length k)
    rw [show (r.addLabel base pc.logical).current = r.current from rfl] at this
    by_cases hk : r.current = k
    · simpa only [labelNames, symNames, if_pos hk, List.append_nil, List.cons_append, List.nil_append] using this
    · simpa only [labelNames, symNames, if_neg hk, List.append_nil] using this
  | symbol name v _ hl hs => rw [hl, hs]; simpa only [ite_self] using addSymbol_keptAt r name v k
  | other _ hl hs => rw [hl, hs]; exact .of_eq rfl _ _

theorem pcAfter_reloc {env : Env} {n : Node} {r r' : Resolver} {pc pc' : Address} (h : pcAfter env n r pc = .ok (r', pc')) :
    r'.reloc = r.reloc := by
  cases pcAfter_step h <;> rfl

/-- the general form of `passLoop_keepsAt` (any `D`, no bound on the current scope), together with the pass following the
    replay over any array `S` its scopes agree with -/
theorem passLoop_keptAt {env : Env} {skip : Node → Bool} {S : Array ScopeRec} (k : Nat) {ns : List Node}
    (hskip : ∀ n ∈ ns, skip n = true → isMarker n = false) {r r' : Resolver} {pc pc' : Address}
    (hD : .scopePop ∈ ns → ∀ x, D x → NoDot x) (hag : Agrees S r.scopes) (hsz : r.scopes.size = S.size)
    (h : passLoop env skip ns r pc = .ok (r', pc')) :
    KeptAt D k r r' (namesIn labelNames skip S k ns r.current r.lastUsed) (namesIn symNames skip S k ns r.current r.lastUsed) ∧
      replay S ns r.current r.lastUsed = some (r'.current, r'.lastUsed) ∧
      Agrees S r'.scopes ∧ r'.scopes.size = S.size ∧ r'.reloc = r.reloc := by
  fun_induction passLoop env skip ns r pc with
  | case1 => cases h; exact ⟨.of_eq rfl _ _, rfl, hag, hsz, rfl⟩
  | case2 n ns r pc hs ih =>
    have hrep := replay_one S (hskip n (.head _) hs) r.current r.lastUsed
    obtain ⟨kk, h1, h2⟩ := ih (fun m hm => hskip m (.tail _ hm)) (fun hm => hD (.tail _ hm)) hag hsz h
    exact ⟨by simpa [namesIn, hs, hrep] using kk, by rw [replay_cons hrep]; exact h1, h2⟩
  | case3 => cases h
  | case4 n ns r pc hs r1 pc1 hp ih =>
    have hs' : skip n = false := by simpa using hs
    obtain ⟨hrep, hag1, hsz1⟩ := pcAfter_replay hp
    rw [replay_congr S r.scopes hag hsz [n]] at hrep
    obtain ⟨kk, h1, h2, h3, h4⟩ := ih (fun m hm => hskip m (.tail _ hm)) (fun hm => hD (.tail _ hm)) (hag.trans hag1) (hsz1.trans hsz) h
    have k1 := pcAfter_keptAt (D := D) (fun e => hD (e ▸ .head _)) hp k
    refine ⟨?_, by rw [replay_cons hrep]; exact h1, h2, h3, h4.trans (pcAfter_reloc hp)⟩
    have := k1.trans kk
    by_cases hm : isMarker n = true
    · cases n <;> simp [isMarker] at hm <;> simpa [namesIn, hs', hrep, labelNames, symNames, isMarker] using this
    · by_cases hk : r.current = k
      · subst hk; simpa [namesIn, hs', hrep, hm] using this
      · simpa [namesIn, hs', hrep, hm, hk] using this

/-- **a whole pass, seen from scope `k`**: `labels` / `symbols` of scope `k` change only under the names written by
    nodes visited while `k` was current (and, for `symbols`, under dotted keys) -/
theorem passLoop_keepsAt (env : Env) (skip : Node → Bool) (hskip : ∀ n, skip n = true → isMarker n = false)
    (S : Array ScopeRec) (hS : ParentsOk S) (k : Nat) :
    ∀ (ns : List Node) (r r' : Resolver) (pc pc' : Address),
      Agrees S r.scopes → r.scopes.size = S.size → r.current < S.size →
      passLoop env skip ns r pc = .ok (r', pc') →
      KeepsAt k r r' (namesIn labelNames skip S k ns r.current r.lastUsed) (namesIn symNames skip S k ns r.current r.lastUsed) ∧
        Agrees S r'.scopes ∧ r'.scopes.size = S.size ∧ r'.current < S.size ∧ r'.reloc = r.reloc := by
  intro ns r r' pc pc' hag hsz hc h
  obtain ⟨kk, hrep, h2, h3, h4⟩ := passLoop_keptAt (D := NoDot) k (fun n _ => hskip n) (fun _ _ h => h) hag hsz h
  exact ⟨kk.keepsAt, h2, h3, replay_lt hS hc hrep, h4⟩

theorem namesIn_mono {f g : Node → List String} (hfg : ∀ n x, x ∈ f n → x ∈ g n) {skip : Node → Bool} {S : Array ScopeRec} {k : Nat}
    {x : String} : ∀ {ns : List Node} {c l : Nat}, x ∈ namesIn f skip S k ns c l → x ∈ namesIn g skip S k ns c l := by
  intro ns
  induction ns with
  | nil => intro c l h; cases h
  | cons n ns ih =>
    intro c l h
    simp only [namesIn, List.mem_append] at h ⊢
    rcases h with h | h
    · left
      split at h
      · rename_i hc; rw [if_pos hc]; exact hfg n x h
      · cases h
    · right
      split at h
      · exact ih h
      · cases h

theorem no_labelNames_pass2 (S : Array ScopeRec) (k : Nat) :
    ∀ (ns : List Node) (c l : Nat), namesIn labelNames Node.isLabelOrBinary S k ns c l = [] := by
  intro ns
  induction ns with
  | nil => intro c l; rfl
  | cons n ns ih =>
    intro c l
    simp only [namesIn]
    have h1 : (if c = k ∧ Node.isLabelOrBinary n = false ∧ isMarker n = false then labelNames n else []) = [] := by
      split
      · rename_i hc
        cases n <;> simp [Node.isLabelOrBinary, labelNames] at hc ⊢
      · rfl
    rw [h1, List.nil_append]
    split
    · exact ih _ _
    · rfl

theorem isSymbol_not_marker : ∀ n, Node.isSymbol n = true → isMarker n = false := by
  intro n h; cases n <;> simp [Node.isSymbol] at h <;> rfl

theorem isLabelOrBinary_not_marker : ∀ n, Node.isLabelOrBinary n = true → isMarker n = false := by
  intro n h; cases n <;> simp [Node.isLabelOrBinary] at h <;> rfl

/-- in a list without markers every node is visited in the scope the traversal starts in -/
theorem namesIn_flat {f : Node → List String} {skip : Node → Bool} {S : Array ScopeRec} {k l : Nat} {ns : List Node}
    (hf : Flat ns) : namesIn f skip S k ns k l = (ns.filter fun n => !skip n).flatMap f := by
  induction ns with
  | nil => rfl
  | cons n ns ih =>
    have hrep := replay_one S hf.cons.1 k l
    cases hs : skip n <;> simp [namesIn, hrep, hs, hf.cons.1, List.filter, ih hf.cons.2]

/-- the flat case: a pass over a list without scope markers stays in its scope and writes only names the visited nodes define -/
theorem passLoop_keeps (env : Env) (skip : Node → Bool) (ns : List Node) (r r' : Resolver) (pc pc' : Address) (hf : Flat ns)
    (h : passLoop env skip ns r pc = .ok (r', pc')) :
    Keeps r r' ((ns.filter fun n => !skip n).flatMap labelNames) ((ns.filter fun n => !skip n).flatMap symNames) := by
  obtain ⟨k, hrep, _, hsz, hrel⟩ := passLoop_keptAt (D := fun _ => True) r.current (fun n hn _ => hf n hn)
    (fun hm => absurd (hf _ hm) (by decide)) (Agrees.refl _) rfl h
  rw [replay_leaves fun n hn => isMarker_eq n ▸ hf n hn] at hrep
  rw [namesIn_flat hf, namesIn_flat hf] at k
  have hc : r'.current = r.current := (Prod.mk.inj (Option.some.inj hrep)).1.symm
  have e : r'.cur = r'.scopeAt r.current := by rw [← hc]; rfl
  exact ⟨hc, hsz, by rw [e, k.code]; rfl, by rw [e, k.parent]; rfl, hrel, fun x hx => by rw [e, k.labels x hx]; rfl,
    fun x hx => by rw [e, k.symbols x hx trivial]; rfl⟩

theorem ne_size_suffix (base : String) : base ≠ base ++ "__size" := by
  intro e
  have := congrArg String.length e
  rw [String.length_append] at this
  have h6 : ("__size" : String).length = 6 := by decide
  omega

/-- the node defines the position-derived name `name`: a label, or an `.incbin` with that start symbol -/
def Defines (n : Node) (name : String) : Prop := n = .label name ∨ ∃ c, n = .binary c name

theorem Defines.written {env : Env} {n : Node} {name : String} (hn : Defines n name) {r r' : Resolver} {pc pc' : Address}
    (hc : r.current < r.scopes.size) (h : pcAfter env n r pc = .ok (r', pc')) :
    alookup name (r'.scopeAt r.current).labels = some (pc.logical : Int) ∧
      alookup name (r'.scopeAt r.current).symbols = some (pc.logical : Int) := by
  have hA := cur_modifyCur r (fun s => { s with labels := ainsert name pc.logical s.labels, symbols := ainsert name pc.logical s.symbols }) hc
  rcases hn with rfl | ⟨c, rfl⟩ <;> simp only [pcAfter] at h
  · cases h
    rw [show (r.addLabel name pc.logical).scopeAt r.current = _ from hA]
    exact ⟨alookup_ainsert_self, alookup_ainsert_self⟩
  · split at h <;> cases h
    have hB := cur_modifyCur (r.addLabel name pc.logical) (fun s => { s with symbols := ainsert (name ++ "__size") c.length s.symbols })
      (by rw [addLabel, modifyCur_size]; exact hc)
    rw [show ((r.addLabel name pc.logical).addSymbol (name ++ "__size") c.length).scopeAt r.current = _ from hB,
      show (r.addLabel name pc.logical).cur = _ from hA]
    exact ⟨alookup_ainsert_self, (alookup_ainsert_ne (ne_size_suffix name)).trans (alookup_ainsert_self)⟩

/-- what the label pass leaves for the name a node `n` defines (the label pass is `skip = Node.isSymbol`: it leaves the `=`
    symbols out; the symbol pass is `skip = Node.isLabelOrBinary`).  The pass is split at `n`; `r1`, `pc1` are where the prefix
    arrives.  If the scope current there exists, `D name`, and nothing visited in that scope afterwards writes `name`, the scope
    holds `name ↦ pc1.logical` in `labels` and `symbols` at the end. -/
theorem pass1_def {env : Env} {S : Array ScopeRec} {pre : List Node} {n : Node} {name : String} (hn : Defines n name)
    {post : List Node} {r r' : Resolver} {pc pc' : Address} (hag : Agrees S r.scopes) (hsz : r.scopes.size = S.size)
    (hD : .scopePop ∈ pre ++ n :: post → ∀ x, D x → NoDot x)
    (h : passLoop env Node.isSymbol (pre ++ n :: post) r pc = .ok (r', pc')) :
    ∃ r1 pc1, passLoop env Node.isSymbol pre r pc = .ok (r1, pc1) ∧
      replay S pre r.current r.lastUsed = some (r1.current, r1.lastUsed) ∧
      (r1.current < S.size → D name → name ∉ namesIn symNames Node.isSymbol S r1.current post r1.current r1.lastUsed →
        alookup name (r'.scopeAt r1.current).labels = some (pc1.logical : Int) ∧
        alookup name (r'.scopeAt r1.current).symbols = some (pc1.logical : Int)) ∧
      (r'.scopeAt r1.current).codeSymbols = (r.scopeAt r1.current).codeSymbols ∧
      Agrees S r'.scopes ∧ r'.scopes.size = S.size ∧ r'.reloc = r.reloc := by
  -- `k0`: the frame of the prefix; `kn` and `Defines.written`: the step at `n`; `k2`: the frame of the suffix, all seen from `r1.current`
  obtain ⟨r1, pc1, h1, h2⟩ := passLoop_split h
  obtain ⟨k0, hrep, hag1, hsz1, hrel1⟩ := passLoop_keptAt r1.current (fun n _ => isSymbol_not_marker n)
    (fun hm => hD (List.mem_append_left _ hm)) hag hsz h1
  obtain ⟨hsk, hmk⟩ : Node.isSymbol n = false ∧ isMarker n = false := by rcases hn with rfl | ⟨c, rfl⟩ <;> exact ⟨rfl, rfl⟩
  rw [passLoop_cons, hsk, if_neg Bool.false_ne_true] at h2
  obtain ⟨⟨r2, pc2⟩, hp, h2⟩ := Except.bind_ok h2
  obtain ⟨hrp, a2, a3⟩ := pcAfter_replay hp
  rw [replay_one _ hmk] at hrp
  simp only [Option.some.injEq, Prod.mk.injEq] at hrp
  obtain ⟨k2, _, hag3, hsz3, hrel3⟩ := passLoop_keptAt (D := D) r1.current (fun n _ => isSymbol_not_marker n)
    (fun hm => hD (List.mem_append_right _ (.tail _ hm))) (hag1.trans a2) (a3.trans hsz1) h2
  rw [← hrp.1, ← hrp.2] at k2
  have kn := pcAfter_keptAt (D := D) (n := n) (fun e => by rw [e] at hmk; cases hmk) hp r1.current
  refine ⟨r1, pc1, h1, hrep, fun hc hd hfresh => ?_, ?_, hag3, hsz3, (hrel3.trans (pcAfter_reloc hp)).trans hrel1⟩
  · obtain ⟨hl, hs⟩ := hn.written (by rw [hsz1]; exact hc) hp
    have hfl : name ∉ namesIn labelNames Node.isSymbol S r1.current post r1.current r1.lastUsed :=
      fun hx => hfresh (namesIn_mono labelNames_sub hx)
    exact ⟨by rw [k2.labels name hfl, hl], by rw [k2.symbols name hfresh hd, hs]⟩
  · rw [k2.code, kn.code, k0.code]

/-- **what the label pass leaves in the tables of the scope an `.incbin` is visited in** -/
theorem pass1_binary_scoped (env : Env) (S : Array ScopeRec) (hS : ParentsOk S) (pre : List Node) (content : List Nat) (base : String)
    (post : List Node) (r r' : Resolver) (pc pc' : Address) (hag : Agrees S r.scopes) (hsz : r.scopes.size = S.size)
    (hc : r.current < S.size)
    (h : passLoop env Node.isSymbol (pre ++ .binary content base :: post) r pc = .ok (r', pc')) :
    ∃ r1 pc1, passLoop env Node.isSymbol pre r pc = .ok (r1, pc1) ∧ r1.current < S.size ∧
      replay S pre r.current r.lastUsed = some (r1.current, r1.lastUsed) ∧
      (NoDot base → base ∉ namesIn symNames Node.isSymbol S r1.current post r1.current r1.lastUsed →
        alookup base (r'.scopeAt r1.current).labels = some (pc1.logical : Int) ∧
        alookup base (r'.scopeAt r1.current).symbols = some (pc1.logical : Int)) ∧
      (r'.scopeAt r1.current).codeSymbols = (r.scopeAt r1.current).codeSymbols ∧
      Agrees S r'.scopes ∧ r'.scopes.size = S.size := by
  obtain ⟨r1, pc1, h1, hrep, hw, hcode, h5, h6, _⟩ :=
    pass1_def (D := NoDot) (.inr ⟨content, rfl⟩) hag hsz (fun _ _ h => h) h
  have hc1 := replay_lt hS hc hrep
  exact ⟨r1, pc1, h1, hc1, hrep, hw hc1, hcode, h5, h6⟩

theorem emitStep_scopes {env : Env} {n : Node} {st st' : EmitState} (h : emitStep env n st = .ok st') :
    st'.r.scopes = st.r.scopes ∧ Follows [n] st.r st'.r := by
  obtain ⟨r1, bs, o⟩ := emitStep_spec h
  have h1 : r1.scopes = st.r.scopes := by cases emitNode_step o.emit <;> rfl
  have hrep := emitNode_replay o.emit
  cases bs with
  | nil => rw [o.same rfl]; exact ⟨h1, hrep⟩
  | cons b t =>
    obtain ⟨a', _, hst⟩ := o.moved (List.cons_ne_nil b t)
    rw [hst]; exact ⟨h1, hrep⟩

theorem emitLoop_scopes_replay (env : Env) : ∀ (ns : List Node) (st st' : EmitState), emitLoop env ns st = .ok st' →
    st'.r.scopes = st.r.scopes ∧
      replay st.r.scopes ns st.r.current st.r.lastUsed = some (st'.r.current, st'.r.lastUsed) := by
  intro ns st st' h
  fun_induction emitLoop env ns st with
  | case1 st => cases h; exact ⟨rfl, rfl⟩
  | case2 => cases h
  | case3 n ns st s1 hs ih =>
    obtain ⟨h1, hr1, _⟩ := emitStep_scopes hs
    obtain ⟨h2, hr2⟩ := ih h
    refine ⟨h2.trans h1, ?_⟩
    rw [replay_cons hr1, ← h1]; exact hr2

/-- parent links point into the array for every resolver built by `append_scope` from the root: a new scope's parent
    is the scope that is current when it is created -/
theorem appendScope_parentsOk (r : Resolver) (kind : ScopeKind) (h : ParentsOk r.scopes) (hc : r.current < r.scopes.size) :
    ParentsOk (r.appendScope kind).scopes := by
  intro i p hp
  unfold Resolver.appendScope at hp ⊢
  simp only [] at hp ⊢
  rw [getD_push] at hp
  rw [Array.size_push]
  split at hp
  · cases hp; omega
  · have := h i p hp; omega

theorem root_parentsOk (root : ScopeRec) (h : root.parent = none) : ParentsOk #[root] := by
  intro i p hp
  match i with
  | 0 => simp [h] at hp
  | n + 1 =>
    have : (#[root] : Array ScopeRec).getD (n + 1) default = default := by
      simp [Array.getD_eq_getD_getElem?]
    rw [this] at hp
    cases hp

end A816.LabelScopes

namespace A816.Replay
open A816

/-- **a whole pass follows `replay`**: the label pass and the symbol pass move through the scopes exactly as
    the positional replay of the node list does -/
theorem passLoop_replay (env : Env) (skip : Node → Bool) (hskip : ∀ n, skip n = true → Node.isScopeMark n = false) :
    ∀ (nodes : List Node) (r r' : Resolver) (pc pc' : Address), passLoop env skip nodes r pc = .ok (r', pc') →
      replay r.scopes nodes r.current r.lastUsed = some (r'.current, r'.lastUsed) ∧ Agrees r.scopes r'.scopes ∧
        r'.scopes.size = r.scopes.size := by
  intro nodes r r' pc pc' h
  obtain ⟨_, h1, h2, h3, _⟩ := LabelScopes.passLoop_keptAt (D := fun _ => False) 0
    (fun n _ hs => isMarker_eq n ▸ hskip n hs) (fun _ _ => False.elim) (Agrees.refl _) rfl h
  exact ⟨h1, h2, h3⟩

end A816.Replay
