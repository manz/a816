import A816.Proofs.Expr
/-! The printout of a tree (`printNodes`), what is asked of the operator table (`PrecOK`), when
the operator stack is left alone (`topOk`, `fpop_stable`), and the operators of the model computing what the Spec says
(`applyNode_unop`, `applyNode_binop`). -/
namespace A816
open Spec

/-- token list of a tree: no parenthesis is inserted -/
def printNodes : Expr → List ENode
  | .num l => [.term .number (String.ofList l.render)]
  | .var x => [.term .identifier x]
  | .un o e => .unop o.sym :: printNodes e
  | .bin o l r => printNodes l ++ .binop o.sym :: printNodes r
  | .paren e => .lparen :: printNodes e ++ [.rparen]

def lookOf (env : String → Option Int) (x : String) : Look :=
  match env x with
  | some v => .int v
  | none => .undefined

/-- The operator table ranks the seven binary operators like the conventional levels, all above
    the rank 2 of a stacked prefix operator. -/
structure PrecOK (prec : PrecTable) where
  P : BOp → Nat
  hP : ∀ o, prec o.sym = some (P o)
  gt2 : ∀ o, 2 < P o
  mono : ∀ o o', o.level ≤ o'.level ↔ P o ≤ P o'

theorem PrecOK.lt {prec : PrecTable} (h : PrecOK prec) (o o' : BOp) : o.level < o'.level ↔ h.P o < h.P o' := by
  have := h.mono o' o; omega

/-- model-side level of a tree -/
def mlevel (P : BOp → Nat) : Expr → Nat
  | .num _ => 0 | .var _ => 0 | .paren _ => 0 | .un _ _ => 2 | .bin o _ _ => P o

/-- rank of the root operator of a tree (0 if the root is not a binary operator): nothing the tree's printout makes the
    machine pop ranks above it -/
def inner (P : BOp → Nat) : Expr → Nat
  | .bin o _ _ => P o
  | _ => 0

def topOk (prec : PrecTable) (ℓ : Nat) : List ENode → Prop
  | [] => True
  | top :: _ => top.text = "(" ∨ ∃ q, stackPrec prec top = some q ∧ ℓ < q

theorem topOk_mono {prec : PrecTable} {a b : Nat} (h : a ≤ b) (st : List ENode) (hb : topOk prec b st) :
    topOk prec a st := by
  cases st with
  | nil => trivial
  | cons top _ =>
    rcases hb with hb | ⟨q, h1, h2⟩
    · exact Or.inl hb
    · exact Or.inr ⟨q, h1, by omega⟩

theorem fpop_stable {look : String → Look} {prec : PrecTable} {p : Nat} {vs : List Int} {st : List ENode}
    (h : topOk prec p st) : fpop look prec p vs st = .ok (vs, st) := by
  cases st with
  | nil => simp [fpop]
  | cons top rest =>
    unfold fpop
    rcases h with h | ⟨q, h1, h2⟩
    · simp [h]
    · by_cases hpar : (top.text == "(") = true
      · simp [hpar]
      · have : ¬ q ≤ p := by omega
        simp [hpar, h1, this]

theorem bsym_ne_paren (o : BOp) : ((ENode.binop o.sym).text == "(") = false := by
  cases o <;> decide
theorem usym_ne_paren (o : UOp) : ((ENode.unop o.sym).text == "(") = false := by
  cases o <;> decide

theorem inner_le_mlevel (P : BOp → Nat) (e : Expr) : inner P e ≤ mlevel P e := by
  cases e <;> simp [inner, mlevel]

theorem bitLength_le (v : Int) (k : Nat) : bitLength v ≤ k ↔ v.natAbs < 2 ^ k := by
  unfold bitLength
  by_cases h0 : v = 0
  · subst h0; simp; exact Nat.two_pow_pos k
  · have hn : v.natAbs ≠ 0 := by omega
    simp only [h0, ↓reduceIte]
    rw [← Nat.log2_lt hn]; omega

theorem pyInvert_eq (v : Int) : pyInvert v = Spec.invert v := by
  unfold pyInvert Spec.invert
  simp only [bitLength_le]
  rfl

theorem applyNode_unop (look : String → Look) (o : UOp) (a r : Int) (vs : List Int)
    (h : o.app a = some r) : applyNode look (a :: vs) (.unop o.sym) = .ok (r :: vs) := by
  cases o with
  | neg =>
    simp only [UOp.app, Option.some.injEq] at h
    subst h
    simp [applyNode, UOp.sym]
  | inv =>
    simp only [UOp.app] at h
    have : ("~" == "-") = false := by decide
    simp [applyNode, UOp.sym, this, pyInvert_eq, h]

theorem applyBin_sym (o : BOp) (a b r : Int) (h : o.app a b = some r) : applyBin o.sym a b = .ok r := by
  cases o <;> simp only [BOp.app] at h
  · cases h; unfold applyBin BOp.sym; simp (decide := true)
  · cases h; unfold applyBin BOp.sym; simp (decide := true)
  · cases h; unfold applyBin BOp.sym; simp (decide := true)
  · unfold applyBin BOp.sym
    by_cases hb : b < 0
    · simp [hb] at h
    · simp only [hb, ↓reduceIte, Option.some.injEq] at h; subst h; simp (decide := true) [hb]
  · unfold applyBin BOp.sym
    by_cases hb : b < 0
    · simp [hb] at h
    · simp only [hb, ↓reduceIte, Option.some.injEq] at h; subst h; simp (decide := true) [hb]
  · cases h; unfold applyBin BOp.sym; simp (decide := true)
  · cases h; unfold applyBin BOp.sym; simp (decide := true)

theorem applyNode_binop (look : String → Look) (o : BOp) (a b r : Int) (vs : List Int)
    (h : o.app a b = some r) : applyNode look (b :: a :: vs) (.binop o.sym) = .ok (r :: vs) := by
  simp [applyNode, applyBin_sym o a b r h]

end A816
