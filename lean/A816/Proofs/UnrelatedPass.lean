import A816.Proofs.Unrelated
import A816.Proofs.Emit
/-!
# An unrelated definition does not change the output (helper lemmas for C08)

`Z` is a set of names closed under qualification (`Z n → Z (s ++ "." ++ n)`: what a definition of `z` becomes when named
scopes export it).  `RZ Z r r'`: the resolvers differ only in what their scopes hold for names in `Z` (entries of `symbols` /
`labels`).  Every pass step and every emission step of a node that mentions no name of `Z` takes `RZ`-related resolvers to
the same outcome: the same error, or the same address / bytes and `RZ`-related resolvers — including leaving a named
scope, whose exports are compared key by key (`exportFold_congr`; the symbol lists hold each key once).
-/
namespace A816.Unrel
open A816 Resolver

/-- scope records that differ only in the entries of `symbols` and `labels` for names in `Z` -/
structure SameZ (Z : String → Prop) (a b : ScopeRec) : Prop where
  kind : a.kind = b.kind
  parent : a.parent = b.parent
  code : a.codeSymbols = b.codeSymbols
  table : a.table = b.table
  syms : ∀ n, ¬ Z n → alookup n a.symbols = alookup n b.symbols
  labs : ∀ n, ¬ Z n → alookup n a.labels = alookup n b.labels
  nda : NodupKeys a.symbols
  ndb : NodupKeys b.symbols

theorem SameZ.sameBut {Z : String → Prop} {a b : ScopeRec} (h : SameZ Z a b) : SameBut Z a b := ⟨h.parent, h.code, h.syms⟩

/-- resolvers that differ only in what their scopes hold for names in `Z` -/
structure RZ (Z : String → Prop) (r r' : Resolver) : Prop where
  eq : ∃ sc, r' = { r with scopes := sc }
  size : r'.scopes.size = r.scopes.size
  sc : ∀ i, SameZ Z (r.scopes.getD i default) (r'.scopes.getD i default)

variable {Z : String → Prop}

theorem RZ.current {r r' : Resolver} (h : RZ Z r r') : r'.current = r.current := by
  obtain ⟨sc, rfl⟩ := h.eq; rfl
theorem RZ.lastUsed {r r' : Resolver} (h : RZ Z r r') : r'.lastUsed = r.lastUsed := by
  obtain ⟨sc, rfl⟩ := h.eq; rfl
theorem RZ.pc {r r' : Resolver} (h : RZ Z r r') : r'.pc = r.pc := by
  obtain ⟨sc, rfl⟩ := h.eq; rfl
theorem RZ.reloc {r r' : Resolver} (h : RZ Z r r') : r'.reloc = r.reloc := by
  obtain ⟨sc, rfl⟩ := h.eq; rfl
theorem RZ.getBus {r r' : Resolver} (h : RZ Z r r') : r'.getBus = r.getBus := by
  obtain ⟨sc, rfl⟩ := h.eq; rfl

theorem RZ.cur {r r' : Resolver} (h : RZ Z r r') : SameZ Z r.cur r'.cur := by
  unfold Resolver.cur Resolver.scopeAt
  rw [h.current]; exact h.sc _

theorem RZ.valueFor {r r' : Resolver} (h : RZ Z r r') (n : String) (hn : ¬ Z n) : r'.valueFor n = r.valueFor n := by
  unfold Resolver.valueFor
  rw [h.size, h.current]
  exact (valueForAux_sameBut Z n hn _ _ (fun i => (h.sc i).sameBut) _ _).symm

theorem RZ.look {r r' : Resolver} (h : RZ Z r r') (n : String) (hn : ¬ Z n) : r'.look n = r.look n := by
  unfold Resolver.look; rw [h.valueFor n hn]

/-- `RZ` is kept by an update of the fields other than `scopes`, done alike on both sides -/
theorem RZ.update {r r' : Resolver} (h : RZ Z r r') (f : Resolver → Resolver)
    (hf : ∀ r sc, f { r with scopes := sc } = { f r with scopes := sc }) : RZ Z (f r) (f r') := by
  obtain ⟨sc, rfl⟩ := h.eq
  have e : (f r).scopes = r.scopes := (congrArg Resolver.scopes (hf r r.scopes) :)
  rw [hf r sc]
  exact ⟨⟨sc, rfl⟩, h.size.trans (congrArg Array.size e.symm), fun i => by rw [e]; exact h.sc i⟩

theorem RZ.withCurrent {r r' : Resolver} (h : RZ Z r r') (c : Nat) :
    RZ Z { r with current := c } { r' with current := c } :=
  h.update (fun r => { r with current := c }) fun _ _ => rfl

theorem RZ.advance {r r' : Resolver} (h : RZ Z r r') (pc : Int) (a : Address) :
    RZ Z { r with pc := pc, reloc := a } { r' with pc := pc, reloc := a } :=
  h.update (fun r => { r with pc := pc, reloc := a }) fun _ _ => rfl

/-- no name of `Z` occurs as an identifier of the expression -/
def FreeE (Z : String → Prop) (e : PExpr) : Prop := ∀ n, ENode.term .identifier n ∈ e.nodes → ¬ Z n

theorem RZ.evalP {r r' : Resolver} (h : RZ Z r r') (env : Env) (e : PExpr) (hz : FreeE Z e) :
    evalP env r' e = evalP env r e := by
  unfold A816.evalP
  apply evalTokens_congr
  intro n hn
  exact h.look n (hz n hn)

theorem RZ.getValue {r r' : Resolver} (h : RZ Z r r') (env : Env) (e : PExpr) (info : Tok) (hz : FreeE Z e) :
    getValue env r' e info = getValue env r e info := by
  unfold A816.getValue; rw [h.evalP env e hz]

/-- the exports of two scopes that agree off `Z`, written into two lists that agree off `Z`, agree off `Z` -/
theorem exportFold_congr (hZ : ∀ s n, Z n → Z (s ++ "." ++ n)) (name : String) (l l' acc acc' : List (String × Int))
    (hn : NodupKeys l) (hn' : NodupKeys l') (hl : ∀ k, ¬ Z k → alookup k l = alookup k l')
    (ha : ∀ m, ¬ Z m → alookup m acc = alookup m acc') :
    ∀ m, ¬ Z m → alookup m (exportFold name l acc) = alookup m (exportFold name l' acc') := by
  intro m hm
  by_cases hex : ∃ k ∈ l.map Prod.fst, name ++ "." ++ k = m
  · obtain ⟨k, hk, rfl⟩ := hex
    have hzk : ¬ Z k := fun hz => hm (hZ name k hz)
    have hs := (alookup_isSome_iff k l).mpr hk
    cases hv : alookup k l with
    | none => rw [hv] at hs; cases hs
    | some v =>
      rw [exportFold_hit name l acc k v hn hv, exportFold_hit name l' acc' k v hn' (by rw [← hl k hzk]; exact hv)]
  · have h1 : ∀ k ∈ l.map Prod.fst, name ++ "." ++ k ≠ m := fun k hk e => hex ⟨k, hk, e⟩
    have h2 : ∀ k ∈ l'.map Prod.fst, name ++ "." ++ k ≠ m := by
      intro k hk e
      have hzk : ¬ Z k := fun hz => hm (by rw [← e]; exact hZ name k hz)
      have : (alookup k l).isSome = true := by rw [hl k hzk]; exact (alookup_isSome_iff k l').mpr hk
      exact hex ⟨k, (alookup_isSome_iff k l).mp this, e⟩
    rw [exportFold_other name m l acc h1, exportFold_other name m l' acc' h2, ha m hm]

theorem RZ.modifyAt {r r' : Resolver} (h : RZ Z r r') (p : Nat) (f f' : ScopeRec → ScopeRec)
    (hf : ∀ a b, SameZ Z a b → SameZ Z (f a) (f' b)) :
    RZ Z { r with scopes := r.scopes.modify p f } { r' with scopes := r'.scopes.modify p f' } := by
  obtain ⟨sc, rfl⟩ := h.eq
  have hs : sc.size = r.scopes.size := h.size
  refine ⟨⟨sc.modify p f', rfl⟩, by simp; exact hs, ?_⟩
  intro i
  show SameZ Z ((r.scopes.modify p f).getD i default) ((sc.modify p f').getD i default)
  rw [getD_modify, getD_modify, hs]
  split
  · exact hf _ _ (h.sc i)
  · exact h.sc i

theorem RZ.modifyCur {r r' : Resolver} (h : RZ Z r r') (f : ScopeRec → ScopeRec)
    (hf : ∀ a b, SameZ Z a b → SameZ Z (f a) (f b)) : RZ Z (r.modifyCur f) (r'.modifyCur f) := by
  obtain ⟨sc, rfl⟩ := h.eq
  exact h.modifyAt r.current f f hf

theorem RZ.addSymbol {r r' : Resolver} (h : RZ Z r r') (n : String) (v : Int) : RZ Z (r.addSymbol n v) (r'.addSymbol n v) := by
  unfold Resolver.addSymbol
  apply h.modifyCur
  intro a b hab
  exact ⟨hab.kind, hab.parent, hab.code, hab.table, fun m hm => alookup_ainsert_congr n v (hab.syms m hm), hab.labs,
    nodup_ainsert hab.nda, nodup_ainsert hab.ndb⟩

theorem RZ.addLabel {r r' : Resolver} (h : RZ Z r r') (n : String) (v : Int) : RZ Z (r.addLabel n v) (r'.addLabel n v) := by
  unfold Resolver.addLabel
  apply h.modifyCur
  intro a b hab
  exact ⟨hab.kind, hab.parent, hab.code, hab.table, fun m hm => alookup_ainsert_congr n v (hab.syms m hm),
    fun m hm => alookup_ainsert_congr n v (hab.labs m hm), nodup_ainsert hab.nda, nodup_ainsert hab.ndb⟩

theorem RZ.refl (r : Resolver) (hk : ∀ i, NodupKeys (r.scopes.getD i default).symbols) : RZ Z r r :=
  ⟨⟨r.scopes, rfl⟩, rfl, fun i => ⟨rfl, rfl, rfl, rfl, fun _ _ => rfl, fun _ _ => rfl, hk i, hk i⟩⟩

/-- the same outcome of a resolver operation that may refuse (`useNextScope`, `restoreScope`, `setPosition`) -/
def ROpt (Z : String → Prop) : Option Resolver → Option Resolver → Prop
  | some a, some b => RZ Z a b
  | none, none => True
  | _, _ => False

theorem RZ.useNextScope {r r' : Resolver} (h : RZ Z r r') : ROpt Z r.useNextScope r'.useNextScope := by
  unfold Resolver.useNextScope
  rw [h.lastUsed, h.size]
  by_cases hc : r.lastUsed + 1 < r.scopes.size
  · rw [if_pos hc, if_pos hc]
    exact h.update (fun x => { x with lastUsed := r.lastUsed + 1, current := r.lastUsed + 1 }) fun _ _ => rfl
  · rw [if_neg hc, if_neg hc]; trivial

theorem RZ.restoreScope (hZ : ∀ s n, Z n → Z (s ++ "." ++ n)) {r r' : Resolver} (h : RZ Z r r') (ex : Bool) :
    ROpt Z (r.restoreScope ex) (r'.restoreScope ex) := by
  have hc := h.cur
  rw [restoreScope_eq, restoreScope_eq, ← hc.parent]
  cases r.cur.parent with
  | none => trivial
  | some p =>
    refine RZ.withCurrent (r := { r with scopes := r.leftScopes ex p }) (r' := { r' with scopes := r'.leftScopes ex p }) ?_ p
    unfold leftScopes
    rw [← hc.kind]
    cases ex with
    | false => exact h
    | true =>
      cases r.cur.kind with
      | plain | internal => exact h
      | named name =>
        exact h.modifyAt p _ _ fun a b hab => ⟨hab.kind, hab.parent, hab.code, hab.table,
          exportFold_congr hZ name _ _ _ _ hc.nda hc.ndb hc.syms hab.syms, hab.labs,
          nodup_exportFold name _ _ hab.nda, nodup_exportFold name _ _ hab.ndb⟩

theorem RZ.setPosition {r r' : Resolver} (h : RZ Z r r') (v : Int) : ROpt Z (r.setPosition v) (r'.setPosition v) := by
  unfold Resolver.setPosition
  rw [h.getBus]
  cases r.getBus with
  | none => trivial
  | some bus =>
    simp only []
    cases Address.mk? bus v with
    | none => trivial
    | some a => rw [h.pc]; exact h.advance _ a

theorem RZ.checkLabel {r r' : Resolver} (h : RZ Z r r') (name : String) (hn : ¬ Z name) (a : Address) :
    checkLabel r' name a = checkLabel r name a := by
  unfold A816.checkLabel
  rw [← h.cur.labs name hn, h.valueFor name hn]

theorem RZ.emitRelative {r r' : Resolver} (h : RZ Z r r') (e : OpEntry) (v : Int) :
    emitRelative r' e v = emitRelative r e v := by
  unfold A816.emitRelative
  rw [h.reloc, h.getBus, h.pc]

/-- a node that mentions no name of `Z`: no expression of it does, and it is not the label / included binary of such a name -/
def FreeN (Z : String → Prop) : Node → Prop
  | .label name => ¬ Z name
  | .symbol _ e => FreeE Z e
  | .argSymbol _ e => FreeE Z e
  | .binary _ base => ¬ Z base
  | .data _ e _ => FreeE Z e
  | .opcode _ _ _ _ value _ => ∀ e, value = some e → FreeE Z e
  | .codePos e _ => FreeE Z e
  | .reloc e _ => FreeE Z e
  | _ => True

/-- the same outcome of a pass step (`pcAfter`, `passLoop`): the same error, or the same address and related resolvers -/
def RP (Z : String → Prop) : Except Err (Resolver × Address) → Except Err (Resolver × Address) → Prop
  | .ok (a, p), .ok (b, q) => RZ Z a b ∧ p = q
  | .error e, .error e' => e = e'
  | _, _ => False

/-- the same outcome of the emission of a node (`emitNode`): the same error, or the same bytes and related resolvers -/
def RE (Z : String → Prop) : Except Err (Resolver × List Nat) → Except Err (Resolver × List Nat) → Prop
  | .ok (a, p), .ok (b, q) => RZ Z a b ∧ p = q
  | .error e, .error e' => e = e'
  | _, _ => False

theorem rp_map {r r' : Resolver} (h : RZ Z r r') (x : Except Err Address) :
    RP Z (x.map fun a => (r, a)) (x.map fun a => (r', a)) := by
  cases x with
  | error e => exact rfl
  | ok a => exact ⟨h, rfl⟩

theorem re_map {r r' : Resolver} (h : RZ Z r r') (x : Except Err (List Nat)) :
    RE Z (x.map fun a => (r, a)) (x.map fun a => (r', a)) := by
  cases x with
  | error e => exact rfl
  | ok a => exact ⟨h, rfl⟩

theorem rp_opt {a b : Option Resolver} (pc : Address) (e : Err) : ROpt Z a b →
    RP Z (match a with | some r => .ok (r, pc) | none => .error e) (match b with | some r => .ok (r, pc) | none => .error e) :=
  match a, b with
  | some _, some _ => fun h => ⟨h, rfl⟩
  | none, none => fun _ => rfl
  | some _, none | none, some _ => False.elim

theorem re_opt {a b : Option Resolver} (e : Err) : ROpt Z a b →
    RE Z (match a with | some r => .ok (r, []) | none => .error e) (match b with | some r => .ok (r, []) | none => .error e) :=
  match a, b with
  | some _, some _ => fun h => ⟨h, rfl⟩
  | none, none => fun _ => rfl
  | some _, none | none, some _ => False.elim

theorem re_ite {c : Prop} [Decidable c] {e : Err} {x y : Except Err (Resolver × List Nat)} (h : RE Z x y) :
    RE Z (if c then .error e else x) (if c then .error e else y) := by
  split
  · exact rfl
  · exact h

theorem pcAfter_rz (hZ : ∀ s n, Z n → Z (s ++ "." ++ n)) (env : Env) (n : Node) (hn : FreeN Z n) {r r' : Resolver} (h : RZ Z r r') (pc : Address) :
    RP Z (pcAfter env n r pc) (pcAfter env n r' pc) := by
  cases n with
  | label name => exact ⟨h.addLabel name _, rfl⟩
  | symbolConst name v => exact ⟨h.addSymbol name v, rfl⟩
  | includeIps | table => exact ⟨h, rfl⟩
  | data | ascii => exact rp_map h _
  | scopeEnter => exact rp_opt pc _ h.useNextScope
  | scopePop => exact rp_opt pc _ (h.restoreScope hZ true)
  | symbol name e =>
    simp only [pcAfter]
    rw [h.evalP env e hn]
    cases evalP env r e with
    | error er => exact rfl
    | ok v => exact ⟨h.addSymbol name v, rfl⟩
  | argSymbol name e =>
    simp only [pcAfter]
    rw [← h.cur.parent]
    cases r.cur.parent with
    | none => exact rfl
    | some par =>
      simp only []
      rw [(h.withCurrent par).evalP env e hn]
      cases evalP env { r with current := par } e with
      | error er => exact rfl
      | ok v => exact ⟨h.addSymbol name v, rfl⟩
  | binary content base =>
    simp only [pcAfter]
    cases addrAdd pc content.length with
    | error er => exact rfl
    | ok a => exact ⟨(h.addLabel base _).addSymbol _ _, rfl⟩
  | text s tbl info =>
    simp only [pcAfter]
    cases textBytes s tbl info with
    | error er => exact rfl
    | ok bs => exact rp_map h _
  | codePos e info | reloc e info =>
    simp only [pcAfter]
    rw [h.getValue env e info hn, h.getBus]
    cases getValue env r e info with
    | error er => exact rfl
    | ok v =>
      cases r.getBus with
      | none => exact rfl
      | some bus =>
        simp only []
        cases Address.mk? bus v with
        | none => exact rfl
        | some a => exact ⟨h, rfl⟩
  | opcode mn size mode index value info =>
    have hg : ∀ ve, value = some ve → getValue env r' ve info = getValue env r ve info :=
      fun ve hve => h.getValue env ve info (hn ve hve)
    clear hn
    simp only [pcAfter]
    cases opcodeEmitter env mn mode index info with
    | error er => exact rfl
    | ok e =>
      simp only []
      cases e.kind with
      | implied | relative => exact rp_map h _
      | sized =>
        cases value with
        | none => exact rfl
        | some ve =>
          cases size with
          | some w => exact rp_map h _
          | none =>
            simp only []
            rw [hg ve rfl]
            cases getValue env r ve info with
            | error er => exact rfl
            | ok v => exact rp_map h _

theorem emitNode_rz (hZ : ∀ s n, Z n → Z (s ++ "." ++ n)) (env : Env) (n : Node) (hn : FreeN Z n) {r r' : Resolver} (h : RZ Z r r') :
    RE Z (emitNode env n r) (emitNode env n r') := by
  cases n with
  | symbol | argSymbol | symbolConst | includeIps | table | ascii => exact ⟨h, rfl⟩
  | text => exact re_map h _
  | scopeEnter => exact re_opt _ h.useNextScope
  | scopePop => exact re_opt _ (h.restoreScope hZ false)
  | label name | binary _ name =>
    simp only [emitNode]
    rw [h.checkLabel name hn, h.reloc]
    cases checkLabel r name r.reloc with
    | error er => exact rfl
    | ok u => exact ⟨h, rfl⟩
  | data w e info =>
    simp only [emitNode]
    rw [h.getValue env e info hn]
    cases getValue env r e info with
    | error er => exact rfl
    | ok v => exact ⟨h, rfl⟩
  | codePos e info | reloc e info =>
    simp only [emitNode]
    rw [h.getValue env e info hn]
    cases getValue env r e info with
    | error er => exact rfl
    | ok v => exact re_opt _ (h.setPosition v)
  | opcode mn size mode index value info =>
    simp only [emitNode]
    cases opcodeEmitter env mn mode index info with
    | error er => exact rfl
    | ok e =>
      simp only []
      cases e.kind with
      | implied => exact re_map h _
      | relative =>
        cases value with
        | none => exact rfl
        | some ve =>
          simp only []
          rw [h.getValue env ve info (hn ve rfl)]
          cases getValue env r ve info with
          | error er => exact rfl
          | ok v => simp only []; rw [h.emitRelative e v]; exact re_map h _
      | sized =>
        cases value with
        | none => exact rfl
        | some ve =>
          simp only []
          rw [h.getValue env ve info (hn ve rfl)]
          apply re_ite
          cases getValue env r ve info with
          | error er => exact rfl
          | ok v =>
            simp only []
            cases emitEntry e size (some v) with
            | error er => cases er <;> exact rfl
            | ok bs => exact ⟨h, rfl⟩

/-! Two node lists `a ++ b` and `a ++ b'` with a common prefix `a` that mentions no name of `Z`: if the passes over the tails
`b` / `b'` take related resolvers to the same outcome, so do the passes over the whole lists (`passLoop_rel`,
`resolveLabels_rel`, `emitLoop_rel`, `output_rel`).  `b' = x :: b` for a node `x` that is transparent gives the theorems
about one more definition. -/

theorem RP.bind {α β} {T : Except Err α → Except Err β → Prop} (hT : ∀ e, T (.error e) (.error e))
    {x y : Except Err (Resolver × Address)} (hxy : RP Z x y) {f : Resolver × Address → Except Err α}
    {g : Resolver × Address → Except Err β} (hfg : ∀ a b pc, RZ Z a b → T (f (a, pc)) (g (b, pc))) :
    T (x.bind f) (y.bind g) := by
  cases x <;> cases y
  · exact hxy ▸ hT _
  · exact hxy.elim
  · exact hxy.elim
  · rename_i p q
    obtain ⟨a, c⟩ := p
    obtain ⟨b, _⟩ := q
    obtain ⟨h, rfl⟩ := hxy
    exact hfg a b c h

theorem passLoop_rel (hZ : ∀ s n, Z n → Z (s ++ "." ++ n)) (env : Env) (skip : Node → Bool) (b b' : List Node)
    (hb : ∀ r r' pc, RZ Z r r' → RP Z (passLoop env skip b r pc) (passLoop env skip b' r' pc)) :
    ∀ (a : List Node), (∀ n ∈ a, FreeN Z n) → ∀ (r r' : Resolver) (pc : Address), RZ Z r r' →
      RP Z (passLoop env skip (a ++ b) r pc) (passLoop env skip (a ++ b') r' pc) := by
  intro a
  induction a with
  | nil => intro _ r r' pc h; exact hb r r' pc h
  | cons n ns ih =>
    intro hf r r' pc h
    have ih' := ih fun m hm => hf m (List.mem_cons_of_mem _ hm)
    rw [List.cons_append, List.cons_append, passLoop_cons, passLoop_cons]
    split
    · exact ih' r r' pc h
    · exact RP.bind (T := RP Z) (fun _ => rfl) (pcAfter_rz hZ env n (hf n List.mem_cons_self) h pc) fun r1 r1' pc1 h1 => ih' r1 r1' pc1 h1

theorem passLoop_rz (hZ : ∀ s n, Z n → Z (s ++ "." ++ n)) (env : Env) (skip : Node → Bool) (ns : List Node)
    (hf : ∀ n ∈ ns, FreeN Z n) (r r' : Resolver) (pc : Address) (h : RZ Z r r') :
    RP Z (passLoop env skip ns r pc) (passLoop env skip ns r' pc) := by
  have := passLoop_rel hZ env skip [] [] (fun r r' pc h => ⟨h, rfl⟩) ns hf r r' pc h
  rwa [List.append_nil] at this

theorem RZ.reset {r r' : Resolver} (h : RZ Z r r') : RZ Z (resolverReset r) (resolverReset r') :=
  h.update resolverReset fun _ _ => rfl

theorem RZ.lastUsed0 {r r' : Resolver} (h : RZ Z r r') : RZ Z { r with lastUsed := 0 } { r' with lastUsed := 0 } :=
  h.update (fun r => { r with lastUsed := 0 }) fun _ _ => rfl

/-- the same outcome of `resolve_labels` -/
def RR (Z : String → Prop) : Except Err Resolver → Except Err Resolver → Prop
  | .ok a, .ok b => RZ Z a b
  | .error e, .error e' => e = e'
  | _, _ => False

theorem resolveLabels_rel (hZ : ∀ s n, Z n → Z (s ++ "." ++ n)) (env : Env) (a b b' : List Node)
    (hb : ∀ skip r r' pc, RZ Z r r' → RP Z (passLoop env skip b r pc) (passLoop env skip b' r' pc))
    (hf : ∀ n ∈ a, FreeN Z n) (r r' : Resolver) (h : RZ Z r r') :
    RR Z (resolveLabels env (a ++ b) r) (resolveLabels env (a ++ b') r') := by
  rw [resolveLabels_bind, resolveLabels_bind]
  obtain ⟨sc, rfl⟩ := h.eq
  refine RP.bind (T := RR Z) (fun _ => rfl) (passLoop_rel hZ env _ b b' (hb _) a hf _ _ r.reloc h.lastUsed0) fun a1 b1 _ h1 => ?_
  obtain ⟨sc1, rfl⟩ := h1.eq
  exact RP.bind (T := RR Z) (fun _ => rfl) (passLoop_rel hZ env _ b b' (hb _) a hf _ _ a1.reloc h1.reset) fun a2 b2 _ h2 => h2.reset

/-- emission states that agree on everything the writer sees (the ghost trace is not compared) -/
structure RS (Z : String → Prop) (st st' : EmitState) : Prop where
  r : RZ Z st.r st'.r
  block : st'.block = st.block
  blockAddr : st'.blockAddr = st.blockAddr
  writes : st'.writes = st.writes
  own : st'.own = st.own

/-- the same outcome of an emission step or loop (`emitStep`, `emitLoop`): the same error, or `RS`-related states -/
def RES (Z : String → Prop) : Except Err EmitState → Except Err EmitState → Prop
  | .ok a, .ok b => RS Z a b
  | .error e, .error e' => e = e'
  | _, _ => False

theorem stepF_rs {st st' : EmitState} (h : RS Z st st') {r1 r1' : Resolver} (h1 : RZ Z r1 r1') (bs : List Nat) :
    RES Z (stepF st r1 bs) (stepF st' r1' bs) := by
  unfold stepF
  by_cases hemp : bs.isEmpty = true
  · rw [if_pos hemp, if_pos hemp]
    exact ⟨h1, h.block, h.blockAddr, h.writes, h.own⟩
  · rw [if_neg hemp, if_neg hemp, h1.reloc]
    cases addrAdd r1.reloc bs.length with
    | error e => exact rfl
    | ok a' =>
      refine ⟨?_, congrArg (· ++ bs) h.block, h.blockAddr, h.writes, h.own⟩
      show RZ Z { r1 with pc := r1.pc + bs.length, reloc := a' } { r1' with pc := r1'.pc + bs.length, reloc := a' }
      rw [h1.pc]; exact h1.advance _ _

theorem flushed_rs (n : Node) {s s' : EmitState} (h : RS Z s s') : RS Z (flushed n s) (flushed n s') := by
  unfold flushed
  rw [h.block, h.blockAddr, h.writes, h.own, h.r.pc]
  split
  · split <;> exact ⟨h.r, rfl, rfl, rfl, rfl⟩
  · exact h

theorem postF_rs (n : Node) {s1 s1' : EmitState} (h : RS Z s1 s1') : RS Z (postF n s1) (postF n s1') :=
  have := flushed_rs n h
  ⟨this.r, this.block, this.blockAddr, congrArg (· ++ included n) this.writes, this.own⟩

theorem RE.bind {α β} {T : Except Err α → Except Err β → Prop} (hT : ∀ e, T (.error e) (.error e))
    {x y : Except Err (Resolver × List Nat)} (hxy : RE Z x y) {f : Resolver × List Nat → Except Err α}
    {g : Resolver × List Nat → Except Err β} (hfg : ∀ a b bs, RZ Z a b → T (f (a, bs)) (g (b, bs))) :
    T (x.bind f) (y.bind g) := by
  cases x <;> cases y
  · exact hxy ▸ hT _
  · exact hxy.elim
  · exact hxy.elim
  · rename_i p q
    obtain ⟨a, c⟩ := p
    obtain ⟨b, _⟩ := q
    obtain ⟨h, rfl⟩ := hxy
    exact hfg a b c h

theorem RES.bind {α β} {T : Except Err α → Except Err β → Prop} (hT : ∀ e, T (.error e) (.error e))
    {x y : Except Err EmitState} (hxy : RES Z x y) {f : EmitState → Except Err α} {g : EmitState → Except Err β}
    (hfg : ∀ s s', RS Z s s' → T (f s) (g s')) : T (x.bind f) (y.bind g) := by
  cases x <;> cases y
  · exact hxy ▸ hT _
  · exact hxy.elim
  · exact hxy.elim
  · exact hfg _ _ hxy

theorem emitStep_rz (hZ : ∀ s n, Z n → Z (s ++ "." ++ n)) (env : Env) (n : Node) (hn : FreeN Z n) {st st' : EmitState} (h : RS Z st st') :
    RES Z (emitStep env n st) (emitStep env n st') := by
  rw [emitStep_eq, emitStep_eq]
  exact RE.bind (T := RES Z) (fun _ => rfl) (emitNode_rz hZ env n hn h.r) fun r1 r1' bs h1 =>
    RES.bind (T := RES Z) (fun _ => rfl) (stepF_rs h h1 bs) fun s1 s1' hs => postF_rs n hs

/-- the same outcome of emission — or, where `F` allows it, the right side fails -/
def RESF (F : Prop) (Z : String → Prop) (x y : Except Err EmitState) : Prop := RES Z x y ∨ (F ∧ ∃ e, y = .error e)

theorem emitLoop_rel (hZ : ∀ s n, Z n → Z (s ++ "." ++ n)) (env : Env) (F : Prop) (b b' : List Node)
    (hb : ∀ st st', RS Z st st' → RESF F Z (emitLoop env b st) (emitLoop env b' st')) :
    ∀ (a : List Node), (∀ n ∈ a, FreeN Z n) → ∀ (st st' : EmitState), RS Z st st' →
      RESF F Z (emitLoop env (a ++ b) st) (emitLoop env (a ++ b') st') := by
  intro a
  induction a with
  | nil => intro _ st st' h; exact hb st st' h
  | cons n ns ih =>
    intro hf st st' h
    rw [List.cons_append, List.cons_append, emitLoop_cons, emitLoop_cons]
    exact RES.bind (T := RESF F Z) (fun _ => .inl rfl) (emitStep_rz hZ env n (hf n List.mem_cons_self) h)
      fun s1 s1' hs => ih (fun m hm => hf m (List.mem_cons_of_mem _ hm)) s1 s1' hs

theorem emitLoop_rz (hZ : ∀ s n, Z n → Z (s ++ "." ++ n)) (env : Env) (ns : List Node) (hf : ∀ n ∈ ns, FreeN Z n)
    (st st' : EmitState) (h : RS Z st st') : RES Z (emitLoop env ns st) (emitLoop env ns st') := by
  have := emitLoop_rel hZ env False [] [] (fun st st' h => .inl h) ns hf st st' h
  rw [List.append_nil] at this
  exact this.resolve_right fun h => h.1

/-- what reaches the writer: the `write_block` calls of `Program.emit` after `resolve_labels`, or the exception -/
def output (env : Env) (nodes : List Node) (r : Resolver) : Except Err (List (Int × List Nat)) :=
  match resolveLabels env nodes r with
  | .error e => .error e
  | .ok r1 =>
    match emitAll env nodes r1 with
    | .error e => .error e
    | .ok st => .ok st.writes

theorem output_bind (env : Env) (nodes : List Node) (r : Resolver) :
    output env nodes r = (resolveLabels env nodes r).bind fun r1 =>
      (emitLoop env nodes ⟨r1, [], r1.pc, [], [], []⟩).bind fun st =>
        .ok (if st.block.isEmpty then st.writes else st.writes ++ [(st.blockAddr, st.block)]) := by
  unfold output emitAll
  cases resolveLabels env nodes r with
  | error e => rfl
  | ok r1 =>
    simp only [Except.bind]
    cases emitLoop env nodes ⟨r1, [], r1.pc, [], [], []⟩ with
    | error e => rfl
    | ok st => simp only []; split <;> rfl

theorem RR.bind {α β} {T : Except Err α → Except Err β → Prop} (hT : ∀ e, T (.error e) (.error e))
    {x y : Except Err Resolver} (hxy : RR Z x y) {f : Resolver → Except Err α} {g : Resolver → Except Err β}
    (hfg : ∀ a b, RZ Z a b → T (f a) (g b)) : T (x.bind f) (y.bind g) := by
  cases x <;> cases y
  · exact hxy ▸ hT _
  · exact hxy.elim
  · exact hxy.elim
  · exact hfg _ _ hxy

/-- **two node lists that differ behind a prefix which mentions no name of `Z`**: if the passes over the tails keep `RZ` and
    emission of the tails changes nothing the writer sees or (where `F` allows it) fails on the right, the outputs are
    equal or (where `F` allows it) the right one is an error -/
theorem output_rel (hZ : ∀ s n, Z n → Z (s ++ "." ++ n)) (env : Env) (F : Prop) (a b b' : List Node)
    (hbp : ∀ skip r r' pc, RZ Z r r' → RP Z (passLoop env skip b r pc) (passLoop env skip b' r' pc))
    (hbe : ∀ st st', RS Z st st' → RESF F Z (emitLoop env b st) (emitLoop env b' st'))
    (hf : ∀ n ∈ a, FreeN Z n) (r : Resolver) (hk : ∀ i, NodupKeys (r.scopes.getD i default).symbols) :
    output env (a ++ b') r = output env (a ++ b) r ∨ (F ∧ ∃ e, output env (a ++ b') r = .error e) := by
  rw [output_bind, output_bind]
  refine RR.bind (T := fun x y => y = x ∨ (F ∧ ∃ e, y = .error e)) (fun _ => .inl rfl)
    (resolveLabels_rel hZ env a b b' hbp hf r r (RZ.refl r hk)) fun r1 r1' h1 => ?_
  rcases emitLoop_rel hZ env F b b' hbe a hf ⟨r1, [], r1.pc, [], [], []⟩ ⟨r1', [], r1'.pc, [], [], []⟩ ⟨h1, rfl, h1.pc, rfl, rfl⟩
    with hl | ⟨hF, e, he⟩
  · refine RES.bind (T := fun x y => y = x ∨ (F ∧ ∃ e, y = .error e)) (fun _ => .inl rfl) hl fun s s' h2 => .inl ?_
    rw [h2.block, h2.blockAddr, h2.writes]
  · exact .inr ⟨hF, e, by rw [he]; rfl⟩

/-- the tails `b` and `x :: b`, for a node `x` whose pass step keeps the relation on one side -/
theorem passLoop_tail (hZ : ∀ s n, Z n → Z (s ++ "." ++ n)) (env : Env) (skip : Node → Bool) (x : Node) (b : List Node)
    (hf : ∀ n ∈ b, FreeN Z n) (hx : ∀ r r' pc, RZ Z r r' → RP Z (.ok (r, pc)) (passLoop env skip [x] r' pc))
    (r r' : Resolver) (pc : Address) (h : RZ Z r r') :
    RP Z (passLoop env skip b r pc) (passLoop env skip (x :: b) r' pc) := by
  rw [show x :: b = [x] ++ b from rfl, passLoop_append]
  exact RP.bind (T := RP Z) (x := .ok (r, pc)) (f := fun p => passLoop env skip b p.1 p.2) (fun _ => rfl) (hx r r' pc h)
    fun r1 r1' pc1 h1 => passLoop_rz hZ env skip b hf r1 r1' pc1 h1

theorem emitLoop_tail (hZ : ∀ s n, Z n → Z (s ++ "." ++ n)) (env : Env) (F : Prop) (x : Node) (b : List Node)
    (hf : ∀ n ∈ b, FreeN Z n) (hx : ∀ st st', RS Z st st' → RESF F Z (.ok st) (emitStep env x st'))
    (st st' : EmitState) (h : RS Z st st') : RESF F Z (emitLoop env b st) (emitLoop env (x :: b) st') := by
  rw [emitLoop_cons]
  rcases hx st st' h with hs | ⟨hF, e, he⟩
  · exact RES.bind (T := RESF F Z) (x := .ok st) (f := emitLoop env b) (fun _ => .inl rfl) hs
      fun s s' h2 => .inl (emitLoop_rz hZ env b hf s s' h2)
  · exact .inr ⟨hF, e, by rw [he]; rfl⟩

/-- a change of the current scope on one side only that `SameZ` does not see -/
theorem RZ.modifyCur_z {r r' : Resolver} (h : RZ Z r r') (f : ScopeRec → ScopeRec) (hf : ∀ a b, SameZ Z a b → SameZ Z a (f b)) :
    RZ Z r (r'.modifyCur f) := by
  obtain ⟨sc, rfl⟩ := h.eq
  refine ⟨⟨sc.modify r.current f, rfl⟩, (modifyCur_size _ f).trans h.size, fun i => ?_⟩
  show SameZ Z (r.scopes.getD i default) ((sc.modify r.current f).getD i default)
  rw [getD_modify]
  split
  · exact hf _ _ (h.sc i)
  · exact h.sc i

theorem RZ.addSymbol_z {r r' : Resolver} (h : RZ Z r r') (z : String) (hz : Z z) (v : Int) : RZ Z r (r'.addSymbol z v) :=
  h.modifyCur_z _ fun _ _ hi => ⟨hi.kind, hi.parent, hi.code, hi.table,
    fun m hm => (hi.syms m hm).trans (alookup_ainsert_ne (k := z) (k' := m) fun e => hm (e ▸ hz)).symm, hi.labs,
    hi.nda, nodup_ainsert hi.ndb⟩

theorem RZ.addLabel_z {r r' : Resolver} (h : RZ Z r r') (z : String) (hz : Z z) (v : Int) : RZ Z r (r'.addLabel z v) :=
  h.modifyCur_z _ fun _ _ hi => ⟨hi.kind, hi.parent, hi.code, hi.table,
    fun m hm => (hi.syms m hm).trans (alookup_ainsert_ne (k := z) (k' := m) fun e => hm (e ▸ hz)).symm,
    fun m hm => (hi.labs m hm).trans (alookup_ainsert_ne (k := z) (k' := m) fun e => hm (e ▸ hz)).symm,
    hi.nda, nodup_ainsert hi.ndb⟩

theorem passLoop_sym (env : Env) (skip : Node → Bool) (z : String) (hz : Z z) (v : Int) (r r' : Resolver) (pc : Address)
    (h : RZ Z r r') : RP Z (.ok (r, pc)) (passLoop env skip [Node.symbolConst z v] r' pc) := by
  unfold passLoop
  split
  · exact ⟨h, rfl⟩
  · exact ⟨h.addSymbol_z z hz v, rfl⟩

theorem passLoop_label (env : Env) (skip : Node → Bool) (z : String) (hz : Z z) (r r' : Resolver) (pc : Address)
    (h : RZ Z r r') : RP Z (.ok (r, pc)) (passLoop env skip [Node.label z] r' pc) := by
  unfold passLoop
  split
  · exact ⟨h, rfl⟩
  · exact ⟨h.addLabel_z z hz _, rfl⟩

theorem resolveLabels_insert (hZ : ∀ s n, Z n → Z (s ++ "." ++ n)) (env : Env) (z : String) (hz : Z z) (v : Int) (a b : List Node) (hf : ∀ n ∈ a ++ b, FreeN Z n)
    (r r' : Resolver) (h : RZ Z r r') :
    RR Z (resolveLabels env (a ++ b) r) (resolveLabels env (a ++ Node.symbolConst z v :: b) r') :=
  resolveLabels_rel hZ env a b _ (fun skip => passLoop_tail hZ env skip _ b (fun n hn => hf n (List.mem_append_right _ hn))
    (passLoop_sym env skip z hz v)) (fun n hn => hf n (List.mem_append_left _ hn)) r r' h

theorem emitStep_sym (env : Env) (z : String) (v : Int) {st st' : EmitState} (h : RS Z st st') :
    RES Z (.ok st) (emitStep env (Node.symbolConst z v) st') := by
  rw [emitStep_eq]
  show RES Z (.ok st) ((stepF st' st'.r []).bind fun s => .ok (postF (Node.symbolConst z v) s))
  exact ⟨h.r, h.block, h.blockAddr, (List.append_nil _).trans h.writes, h.own⟩

theorem emitLoop_insert (hZ : ∀ s n, Z n → Z (s ++ "." ++ n)) (env : Env) (z : String) (v : Int) (b : List Node) : ∀ (a : List Node), (∀ n ∈ a ++ b, FreeN Z n) →
    ∀ (st st' : EmitState), RS Z st st' →
    RES Z (emitLoop env (a ++ b) st) (emitLoop env (a ++ Node.symbolConst z v :: b) st') := by
  intro a hf st st' h
  exact (emitLoop_rel hZ env False b _ (emitLoop_tail hZ env False _ b (fun n hn => hf n (List.mem_append_right _ hn))
    fun st st' h => .inl (emitStep_sym env z v h)) a (fun n hn => hf n (List.mem_append_left _ hn)) st st' h).resolve_right fun h => h.1

/-- **one more definition of a name nothing mentions, anywhere in the node list, leaves the output unchanged** -/
theorem output_insert (hZ : ∀ s n, Z n → Z (s ++ "." ++ n)) (env : Env) (z : String) (hz : Z z) (v : Int) (a b : List Node)
    (hf : ∀ n ∈ a ++ b, FreeN Z n) (r : Resolver) (hk : ∀ i, NodupKeys (r.scopes.getD i default).symbols) :
    output env (a ++ Node.symbolConst z v :: b) r = output env (a ++ b) r :=
  have hfb : ∀ n ∈ b, FreeN Z n := fun n hn => hf n (List.mem_append_right _ hn)
  (output_rel hZ env False a b _ (fun skip => passLoop_tail hZ env skip _ b hfb (passLoop_sym env skip z hz v))
    (emitLoop_tail hZ env False _ b hfb fun _ _ h => .inl (emitStep_sym env z v h))
    (fun n hn => hf n (List.mem_append_left _ hn)) r hk).resolve_right fun h => h.1

/-- emitting the extra label: its emission-time check fails, or nothing the writer sees changes -/
theorem emitStep_label (env : Env) (z : String) {st st' : EmitState} (h : RS Z st st') :
    RES Z (.ok st) (emitStep env (Node.label z) st') ∨ ∃ e, emitStep env (Node.label z) st' = .error e := by
  rw [emitStep_eq]
  simp only [emitNode]
  cases checkLabel st'.r z st'.r.reloc with
  | error e => exact Or.inr ⟨e, rfl⟩
  | ok u =>
    left
    show RES Z (.ok st) ((stepF st' st'.r []).bind fun s => .ok (postF (Node.label z) s))
    exact ⟨h.r, h.block, h.blockAddr, (List.append_nil _).trans h.writes, h.own⟩

/-- **one more label of a name nothing mentions either leaves the output unchanged or makes the assembly fail** (the label's
    own emission-time check — "label moved / hidden" — is the only thing that can fail because of it) -/
theorem output_insert_label (hZ : ∀ s n, Z n → Z (s ++ "." ++ n)) (env : Env) (z : String) (hz : Z z) (a b : List Node)
    (hf : ∀ n ∈ a ++ b, FreeN Z n) (r : Resolver) (hk : ∀ i, NodupKeys (r.scopes.getD i default).symbols) :
    output env (a ++ Node.label z :: b) r = output env (a ++ b) r ∨ ∃ e, output env (a ++ Node.label z :: b) r = .error e :=
  have hfb : ∀ n ∈ b, FreeN Z n := fun n hn => hf n (List.mem_append_right _ hn)
  (output_rel hZ env True a b _ (fun skip => passLoop_tail hZ env skip _ b hfb (passLoop_label env skip z hz))
    (emitLoop_tail hZ env True _ b hfb fun _ _ h => (emitStep_label env z h).imp id fun he => ⟨trivial, he⟩)
    (fun n hn => hf n (List.mem_append_left _ hn)) r hk).imp id fun h => h.2

end A816.Unrel
