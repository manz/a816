import A816.Model.Cpu
import A816.Spec.Instr
import A816.Proofs.Bytes
/-! Helper lemmas for C01 (and C02/C07): width inference, operand bytes, the two shapes of an accepted `emitEntry`, emitter lookup. -/
namespace A816
open Spec

theorem hexDigitsAux_pos : ∀ fuel v : Nat, 1 ≤ hexDigitsAux fuel v
  | 0, _ => Nat.le_refl 1
  | _+1, _ => by unfold hexDigitsAux; split <;> omega

/-- with enough fuel, `k ≥ 1` hex digits suffice exactly for the values below `16^k` -/
theorem hexDigitsAux_le : ∀ (fuel v k : Nat), v ≤ fuel → (hexDigitsAux fuel v ≤ k + 1 ↔ v < 16 ^ (k + 1))
  | 0, v, k, hv => by
    have := Nat.pow_pos (n := k + 1) (show 0 < 16 by decide)
    simp only [hexDigitsAux]; omega
  | f+1, v, k, hv => by
    have h16 : 16 ^ 1 ≤ 16 ^ (k + 1) := Nat.pow_le_pow_right (by decide) (Nat.le_add_left 1 k)
    unfold hexDigitsAux
    split
    · omega
    · cases k with
      | zero => have := hexDigitsAux_pos f (v / 16); omega
      | succ k => have := hexDigitsAux_le f (v / 16) k (by omega); rw [Nat.pow_succ]; omega

theorem hexDigits_le (v k : Nat) (hk : 1 ≤ k) : hexDigits v ≤ k ↔ v < 16 ^ k := by
  obtain ⟨k, rfl⟩ : ∃ j, k = j + 1 := ⟨k - 1, by omega⟩
  exact hexDigitsAux_le v v k (Nat.le_refl v)

/-- for a non-negative value the inferred width is the smallest of 1, 2, 3 bytes that holds it (3 also for anything
    wider, which `emit_value` then refuses) -/
theorem operandSize_nonneg (v : Int) (h : 0 ≤ v) :
    operandSize v = if v < 256 then 1 else if v < 65536 then 2 else 3 := by
  simp only [operandSize, pyHexLenMinus2, if_neg (Int.not_lt.mpr h), hexDigits_le _ 2 (by decide),
    hexDigits_le _ 4 (by decide), Int.toNat_lt h, Nat.reducePow, Int.cast_ofNat_Int]

theorem operandSize_range (v : Int) : operandSize v = 1 ∨ operandSize v = 2 ∨ operandSize v = 3 := by
  simp only [operandSize]
  split
  · exact .inl rfl
  · split
    · exact .inr (.inl rfl)
    · exact .inr (.inr rfl)

/-- the Euclidean remainder as a natural number -/
theorem emod_nat (v : Int) {m : Nat} (hm : 0 < m) : ∃ n : Nat, n < m ∧ v % (m : Int) = n := by
  have hm' : (0 : Int) < m := Int.ofNat_lt.mpr hm
  obtain ⟨n, hn⟩ := Int.eq_ofNat_of_zero_le (Int.emod_nonneg v (Int.ne_of_gt hm'))
  exact ⟨n, Int.ofNat_lt.mp (hn ▸ Int.emod_lt_of_pos v hm'), hn⟩

theorem emitValue_iff (w : Nat) (v : Int) (bs : List Nat) (hw : w = 1 ∨ w = 2 ∨ w = 3) :
    emitValue w v = some bs ↔
      bs = leBytes w (v % ((256 ^ w : Nat) : Int)).toNat ∧ (w = 3 → 0 ≤ v ∧ v < 16777216) := by
  have cl {a : List Nat} {p : Prop} (hp : p) : some a = some bs ↔ bs = a ∧ p :=
    ⟨fun h => ⟨(Option.some.inj h).symm, hp⟩, fun h => congrArg some h.1.symm⟩
  rcases hw with rfl | rfl | rfl
  · obtain ⟨n, hn, e⟩ := emod_nat v (m := 256 ^ 1) (by decide)
    rw [show emitValue 1 v = packB (v % (256 ^ 1 : Nat)) from rfl, e, packB_nat hn, Int.toNat_natCast,
      show leBytes 1 n = [n] from congrArg (· :: []) (Nat.mod_eq_of_lt hn)]
    exact cl (fun h => absurd h (by decide))
  · obtain ⟨n, hn, e⟩ := emod_nat v (m := 256 ^ 2) (by decide)
    rw [show emitValue 2 v = packHle (v % (256 ^ 2 : Nat)) from rfl, e, packHle_nat hn, Int.toNat_natCast,
      show leBytes 2 n = [n % 256, n / 256] from
        congrArg (fun x => [n % 256, x]) (Nat.mod_eq_of_lt (Nat.div_lt_of_lt_mul hn))]
    exact cl (fun h => absurd h (by decide))
  · rw [show emitValue 3 v = packHBle (v % 65536) (v / 65536) from rfl, packHBle_eq_some]
    constructor
    · rintro ⟨n, hn, rfl, rfl⟩
      have h := And.intro (Int.natCast_nonneg n) (Int.ofNat_lt.mpr hn)
      exact ⟨congrArg (fun x => leBytes 3 x.toNat) (Int.emod_eq_of_lt h.1 h.2).symm, fun _ => h⟩
    · rintro ⟨rfl, h⟩
      obtain ⟨h0, h1⟩ := h rfl
      exact ⟨v.toNat, by omega, by omega, congrArg (fun x => leBytes 3 x.toNat) (Int.emod_eq_of_lt h0 h1)⟩

/-- expected operand bytes: the value truncated to `w` bytes, little-endian -/
theorem emitValue_le (w : Nat) (v : Int) (bs : List Nat) (hw : w = 1 ∨ w = 2 ∨ w = 3)
    (h : emitValue w v = some bs) :
    bs = leBytes w (v % ((256 ^ w : Nat) : Int)).toNat ∧ (w = 3 → 0 ≤ v ∧ v < 16777216) :=
  (emitValue_iff w v bs hw).mp h

/-- an accepted instruction without operand is the packed opcode byte of its leaf -/
theorem emitEntry_implied {e : OpEntry} {sfx : Option Nat} {val : Option Int} {bs : List Nat} (hk : e.kind = .implied)
    (h : emitEntry e sfx val = .ok bs) : ∃ op, opcodeByte e 1 = some op ∧ packB op = some bs := by
  unfold emitEntry at h
  simp only [hk] at h
  split at h
  · split at h <;> cases h
    exact ⟨_, ‹_›, ‹_›⟩
  · cases h

/-- an accepted instruction with operand is the packed opcode byte its leaf holds for the width `guess_value_size`
    chooses, then what `emit_value` makes of the operand at that width -/
theorem emitEntry_sized {e : OpEntry} {sfx : Option Nat} {v : Int} {bs : List Nat} (hk : e.kind = .sized)
    (h : emitEntry e sfx (some v) = .ok bs) :
    ∃ op b vb, opcodeByte e (guessSize sfx v) = some op ∧ packB op = some b ∧ emitValue (guessSize sfx v) v = some vb ∧
      bs = b ++ vb := by
  unfold emitEntry at h
  simp only [hk] at h
  split at h
  · cases h
  · split at h <;> cases h
    exact ⟨_, _, _, ‹_›, ‹_›, ‹_›, rfl⟩

theorem findEmitter_spec {tbl : List OpEntry} {mn : String} {mode : AddrMode} {index : Option Idx} {e : OpEntry}
    (h : findEmitter tbl mn mode index = .ok e) :
    e ∈ tbl ∧ e.mn = mn ∧ e.mode = mode ∧ (e.index = none ∨ e.index = index) := by
  have key : e ∈ tbl.filter (fun e => e.mn == mn && e.mode == mode) ∧ (e.index = none ∨ e.index = index) := by
    unfold findEmitter at h
    generalize tbl.filter (fun e => e.mn == mn && e.mode == mode) = rows at h
    dsimp only at h
    split at h
    · cases h
    · split at h
      · cases h; exact ⟨.head _, .inl ‹_›⟩
      · split at h
        · cases h
        · split at h
          next hf =>
            cases h; have hi := List.find?_some hf
            exact ⟨List.mem_of_find?_eq_some hf, .inr (beq_iff_eq.mp hi)⟩
          · cases h
  rw [List.mem_filter, Bool.and_eq_true, beq_iff_eq, beq_iff_eq] at key
  exact ⟨key.1.1, key.1.2.1, key.1.2.2, key.2⟩

end A816
