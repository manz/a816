import A816.Proofs.ScanProg
/-!
# The scanner is total and only ever appends tokens (helper lemmas for C15 `scan_terminates` and for C16)

One post-condition, proved for every scanner primitive and every state function by one walk over the pieces of `ScanProg`:
relative to the state `s` it is started in, a call either returns a state with the same input, `pos` not smaller and the
tokens of `s` as a prefix of its own (`Later s s'`), or raises an exception that is **not** `outOfFuel` (no Python loop
inside it runs forever) in a state that has kept the tokens of `s` (`Safe s r`).  `SafeTo` adds what is known of a
returned state: a row of a dispatch ends strictly later; `lex_initial` and `lex_expression`, when they return with `pos`
unchanged, have emitted no token — so the no-progress guard of `Scanner.scan` fires exactly when nothing happened, and
every iteration of the outer loop that continues has strictly advanced `pos`.
The end of the file says this in the words of C15 (`Good`, `Strict`, `Prog`) and of C16 (`ScanK.TP`).
-/
namespace A816.ScanT
open A816 Scan ScanB

seal Scan.accept

/-- `s'` is a later state of the same scan that has kept every token of `s` -/
structure Later (s s' : Scan) : Prop where
  input : s'.input = s.input
  pos : s.pos ≤ s'.pos
  toks : s.toks.toList <+: s'.toks.toList

theorem Later.refl (s : Scan) : Later s s := ⟨rfl, Nat.le_refl _, List.prefix_refl _⟩
theorem Later.trans {a b c : Scan} (h1 : Later a b) (h2 : Later b c) : Later a c :=
  ⟨by rw [h2.input, h1.input], Nat.le_trans h1.pos h2.pos, h1.toks.trans h2.toks⟩
theorem Later.of_toks {s s' : Scan} (hi : s'.input = s.input) (hp : s.pos ≤ s'.pos) (ht : s'.toks = s.toks) : Later s s' :=
  ⟨hi, hp, by rw [ht]; exact List.prefix_refl _⟩

theorem later_next (s : Scan) : Later s (s.next).1 := .of_toks (next_input s) (next_pos_le s) (next_toks s)
theorem later_ignore (s : Scan) : Later s s.ignore := .of_toks rfl (Nat.le_refl _) rfl
theorem later_emit (s : Scan) (ty : TokTy) : Later s (s.emit ty) :=
  ⟨rfl, Nat.le_refl _, by show _ <+: (s.toks.push _).toList; rw [Array.toList_push]; exact List.prefix_append _ _⟩
theorem later_accept (s : Scan) (c : List Char) (n : Bool) : Later s (s.accept c n).1 :=
  .of_toks (accept_step s c n).1 (accept_step s c n).2.2 (accept_toks s c n)
theorem later_acc (α : Acc) (s : Scan) : Later s (α.run s).1 := by
  cases α with
  | chars c => exact later_accept s c false
  | pre p => exact .of_toks (acceptPrefix_step s p).1 (acceptPrefix_step s p).2 (acceptPrefix_toks s p)

theorem later_backup_next (s : Scan) (h : s.pos ≤ s.input.size) : Later s (s.backup.next).1 := by
  refine .of_toks (by rw [next_input]; rfl) ?_ (next_toks _)
  by_cases h0 : s.pos = 0
  · omega
  · have hb : s.backup.pos < s.backup.input.size := by show s.pos - 1 < s.input.size; omega
    rw [next_pos_lt _ hb]; show s.pos ≤ s.pos - 1 + 1; omega

theorem later_next_backup (s : Scan) (h : s.pos < s.input.size) : Later s (s.next).1.backup :=
  .of_toks (next_input s) (by show s.pos ≤ (s.next).1.pos - 1; rw [next_pos_lt s h]; omega) (next_toks s)

theorem accept_backup (t : Scan) (cands : List Char) (h0 : cands.contains '\x00' = false) (ha : (t.accept cands).2 = true) :
    Later t (t.accept cands).1.backup ∧ (t.accept cands).1.backup.pos = t.pos ∧ (t.accept cands).1.backup.input = t.input := by
  have hp := (accept_step t cands false).2.1 ha (accept_true_lt t cands h0 ha)
  have hq : (t.accept cands).1.backup.pos = t.pos := by show (t.accept cands).1.pos - 1 = t.pos; rw [hp]; omega
  exact ⟨.of_toks (accept_step t cands false).1 (by rw [hq]; exact Nat.le_refl _) (accept_toks t cands false), hq,
    (accept_step t cands false).1⟩

/-- post-condition of a scanner function started in `s` (an inductive predicate: applying a lemma about it never makes
    the elaborator unfold it and evaluate the program it speaks of) -/
inductive Safe (s : Scan) : SR → Prop
  | ok {s' : Scan} (h : Later s s') : Safe s (.ok s')
  | error {e : Err} {s' : Scan} (he : e ≠ .outOfFuel) (h : s.toks.toList <+: s'.toks.toList) : Safe s (.error (e, s'))

theorem Safe.pure {s s' : Scan} (h : Later s s') : Safe s (pure s') := .ok h
theorem Safe.err {s s' : Scan} {e : Err} (he : e ≠ .outOfFuel) (h : Later s s') : Safe s (.error (e, s')) := .error he h.toks
theorem Safe.later {s s' : Scan} (h : Safe s (.ok s')) : Later s s' := by cases h; assumption
theorem Safe.of_ok {s s' : Scan} {r : SR} (h : Safe s r) (hr : r = .ok s') : Later s s' := by subst hr; exact h.later

/-- composition along `>>=`, the continuation measured against the state the whole was started in -/
theorem Safe.bind' {s : Scan} {r : SR} {f : Scan → SR} (h : Safe s r) (hf : ∀ s1, Later s s1 → Safe s (f s1)) :
    Safe s (r >>= f) := by
  cases h with
  | ok h1 => exact hf _ h1
  | error he h => exact .error he h

theorem Safe.of_later {s s0 : Scan} {r : SR} (h0 : Later s s0) (h : Safe s0 r) : Safe s r := by
  cases h with
  | ok h1 => exact .ok (h0.trans h1)
  | error he h => exact .error he (h0.toks.trans h)

theorem Safe.bind {s : Scan} {r : SR} {f : Scan → SR} (h : Safe s r) (hf : ∀ s1, Safe s1 (f s1)) : Safe s (r >>= f) :=
  h.bind' fun s1 h1 => (hf s1).of_later h1

theorem Safe.ite {s : Scan} {c : Prop} [Decidable c] {x y : SR} (hx : c → Safe s x) (hy : ¬ c → Safe s y) :
    Safe s (if c then x else y) := by
  split
  · exact hx ‹_›
  · exact hy ‹_›

/-- safe, and a state that is returned satisfies `P` -/
def SafeTo (s : Scan) (P : Scan → Prop) (r : SR) : Prop := Safe s r ∧ ∀ s', r = .ok s' → P s'

/-- `Safe.bind'` for `SafeTo` (the continuation also learns which result it continues) -/
theorem SafeTo.bind {s : Scan} {P : Scan → Prop} {r : SR} {f : Scan → SR} (h : Safe s r)
    (hf : ∀ s1, r = .ok s1 → Later s s1 → SafeTo s P (f s1)) : SafeTo s P (r >>= f) := by
  cases h with
  | ok h1 => exact hf _ rfl h1
  | error he h => exact ⟨.error he h, nofun⟩

/-- whatever comes back, normally or with an exception, has kept the tokens of `s` (no claim about the fuel) -/
inductive Keeps (s : Scan) : SR → Prop
  | ok {s' : Scan} (h : Later s s') : Keeps s (.ok s')
  | error {e : Err} {s' : Scan} (h : s.toks.toList <+: s'.toks.toList) : Keeps s (.error (e, s'))

theorem Safe.keeps {s : Scan} {r : SR} (h : Safe s r) : Keeps s r := by
  cases h with
  | ok h1 => exact .ok h1
  | error _ h => exact .error h

theorem Keeps.safe {s : Scan} {r : SR} (h : Keeps s r) (he : ∀ e s', r = .error (e, s') → e ≠ .outOfFuel) : Safe s r := by
  cases h with
  | ok h1 => exact .ok h1
  | error h => exact .error (he _ _ rfl) h

theorem Keeps.of_later {s s0 : Scan} {r : SR} (h0 : Later s s0) (h : Keeps s0 r) : Keeps s r := by
  cases h with
  | ok h1 => exact .ok (h0.trans h1)
  | error h => exact .error (h0.toks.trans h)

theorem safe_acceptRun (s : Scan) (c : List Char) (n : Bool) (he : eofAccepts c n = false) : Safe s (s.acceptRun c n) := by
  obtain ⟨s', h1, h2, h3⟩ := acceptRun_ok s c n he
  rw [h1]
  exact .ok (.of_toks h2 h3 (acceptRun_toks h1))

theorem safe_ignoreRun (s : Scan) (c : List Char) (he : eofAccepts c false = false) : Safe s (s.ignoreRun c) := by
  rw [ignoreRun_eq]
  exact (safe_acceptRun s c false he).bind fun u => .pure (later_ignore u)

theorem ignoreRun_toks {s s' : Scan} {cands : List Char} (h : s.ignoreRun cands = .ok s') : s'.toks = s.toks := by
  obtain ⟨u, hu, rfl⟩ := ignoreRun_ok h
  exact acceptRun_toks (s' := u) hu

theorem keeps_quotedLoop (x : Err) : ∀ (n : Nat) (s : Scan) (c : Option Char), Keeps s (quotedLoop x n s c) := by
  intro n
  induction n with
  | zero => intro s c; unfold quotedLoop; exact .error (List.prefix_refl _)
  | succ n ih =>
    intro s c
    unfold quotedLoop
    split
    · exact .ok (Later.refl s)
    · split
      · exact .error (List.prefix_refl _)
      · refine Keeps.of_later ?_ (ih _ _)
        split
        · exact (later_next s).trans (later_next _)
        · exact later_next s

theorem keeps_lineCommentLoop : ∀ (n : Nat) (s : Scan), Keeps s (lineCommentLoop n s) := by
  intro n
  induction n with
  | zero => intro s; unfold lineCommentLoop; exact .error (List.prefix_refl _)
  | succ n ih =>
    intro s
    unfold lineCommentLoop
    split
    · exact .ok (later_next s)
    · exact (ih _).of_later (later_next s)

theorem keeps_blockCommentLoop (x : Err) : ∀ (n : Nat) (s : Scan), Keeps s (blockCommentLoop x n s) := by
  intro n
  induction n with
  | zero => intro s; unfold blockCommentLoop; exact .error (List.prefix_refl _)
  | succ n ih =>
    intro s
    unfold blockCommentLoop
    split
    · exact .ok (later_acc (.pre _) s)
    · split
      · exact .error (later_next s).toks
      · exact (ih _).of_later (later_next s)

theorem safe_quotedLoop {x : Err} (hx : x ≠ .outOfFuel) {n : Nat} {s : Scan} {c : Option Char}
    (hn : s.input.size - s.pos + 1 < n) : Safe s (quotedLoop x n s c) :=
  (keeps_quotedLoop x n s c).safe fun e s' he => by
    rcases quoted_terminates x n s c hn with ⟨s2, h⟩ | ⟨s2, h⟩ <;> rw [h] at he <;> cases he
    exact hx

theorem safe_lineComment {n : Nat} {s : Scan} (hn : s.input.size - s.pos < n) : Safe s (lineCommentLoop n s) :=
  (keeps_lineCommentLoop n s).safe fun e s' he => by
    obtain ⟨s2, h, _⟩ := lineComment_terminates n s hn
    rw [h] at he; cases he

theorem safe_blockComment {x : Err} (hx : x ≠ .outOfFuel) {n : Nat} {s : Scan} (hn : s.input.size - s.pos < n) :
    Safe s (blockCommentLoop x n s) :=
  (keeps_blockCommentLoop x n s).safe fun e s' he => by
    rcases blockComment_terminates x n s hn with ⟨s2, h, _⟩ | ⟨s2, h⟩ <;> rw [h] at he <;> cases he
    exact hx

theorem err_ne (s : Scan) (m : String) : s.err m ≠ .outOfFuel := nofun

theorem safe_emit (s : Scan) (ty : TokTy) : Safe s (pure (s.emit ty)) := .pure (later_emit s ty)

theorem safe_identTail (s : Scan) : Safe s (identTail s) :=
  .ite (fun _ => .pure (((later_emit s _).trans (later_next _)).trans (later_ignore _))) fun _ =>
  .ite (fun _ => .of_later (later_next s) ((safe_acceptRun _ _ _ high_ident.eof).bind fun s2 => safe_emit s2 _))
    fun _ => safe_emit s _

theorem safe_lexIdentifier (s : Scan) : Safe s (lexIdentifier s) := by
  rw [lexIdentifier_eq]
  exact (safe_acceptRun s _ _ high_ident.eof).bind safe_identTail

theorem adv_lexIdentifier (s s' : Scan) (ha : (s.accept letterChars).2 = true) (h : lexIdentifier s = .ok s') :
    s.pos < s'.pos := by
  rw [lexIdentifier_eq] at h
  obtain ⟨s1, hr, h1⟩ := bind_ok h
  have := acceptRun_lt (by rw [accept_snd] at ha ⊢; exact letter_ident _ ha) hr
  have := ((safe_identTail s1).of_ok h1).pos
  omega

theorem safe_lexNumber (s : Scan) (hle : s.pos ≤ s.input.size) : Safe s (lexNumber s) := by
  unfold lexNumber
  simp only []
  have h0 := later_backup_next s hle
  refine .of_later h0 ?_
  generalize (s.backup.next).1 = t
  generalize (s.backup.next).2 = ch
  have run : ∀ (c : List Char), eofAccepts c false = false → ∀ u, Safe u (u.acceptRun c >>= fun s2 => pure (s2.emit .NUMBER)) :=
    fun c he u => (safe_acceptRun u c false he).bind fun s2 => safe_emit s2 _
  refine .ite (fun _ => safe_emit t _) fun hpk => ?_
  have hlt : t.pos < t.input.size := peek_ne_nul_lt t (ne_of_not_beq_or hpk).2
  have nx : ∀ {r : SR}, Safe (t.next).1 r → Safe t r := .of_later (later_next t)
  exact .ite (fun _ => .ite (fun _ => nx (run _ high_bin.eof _)) fun _ => .ite (fun _ => nx (run _ high_oct.eof _)) fun _ =>
      .ite (fun _ => nx (run _ high_hex.eof _)) fun _ =>
        .pure ((later_next_backup t hlt).trans (later_emit _ _)))
    fun _ => run _ high_digit.eof t

theorem safe_lexQuotedString (s : Scan) : Safe s (lexQuotedString s) := by
  unfold lexQuotedString
  simp only []
  refine .of_later (later_next s) ((safe_quotedLoop (err_ne s _) ?_).bind fun s2 => safe_emit s2 _)
  have := next_pos_le s
  rw [next_input]; omega

theorem safe_lexKeyword (cfg : ScanCfg) (s : Scan) : Safe s (lexKeyword cfg s) := by
  unfold lexKeyword
  exact .of_later (later_ignore s) ((safe_acceptRun _ _ _ high_kw.eof).bind' fun s1 h1 =>
    .ite (fun _ => .pure (h1.trans (later_emit s1 _))) fun _ => .err (err_ne _ _) h1)

theorem safe_lexOpcodeIndex (s : Scan) : Safe s (lexOpcodeIndex s) := by
  unfold lexOpcodeIndex
  exact .of_later (later_ignore s) ((safe_ignoreRun _ _ he_sp).bind' fun s1 h1 =>
    .ite (fun _ => .pure ((h1.trans (later_accept s1 _ _)).trans (later_emit _ _))) fun _ => .err (err_ne _ _) h1)

theorem safe_optIndex (s : Scan) : Safe s (optIndex s) :=
  .ite (fun _ => .of_later (later_accept s _ _) (safe_lexOpcodeIndex _)) fun _ => .pure (Later.refl s)

theorem later_bracket : ∀ (l : List (Char × TokTy)) (s : Scan), Later s (bracket l s)
  | [], s => Later.refl s
  | (c, ty) :: l, s => by
    unfold bracket
    split
    · exact (later_next s).trans (later_emit _ _)
    · exact later_bracket l s

theorem safe_after {α : Acc} {t : Scan} {r : SR} (hwf : α.wf = true) (h : (α.run t).2 = true) (hs : Safe (α.run t).1 r) :
    SafeTo t (fun s' => t.pos < s'.pos) r := by
  refine ⟨hs.of_later (later_acc _ t), fun s' he => ?_⟩
  have := acc_lt _ hwf t h
  have := (hs.of_ok he).pos
  omega

theorem safe_erow (e : ERow) (t : Scan) (h : (e.acc.run t).2 = true) :
    SafeTo t (fun s' => t.pos < s'.pos) (e.act (e.acc.run t).1) := by
  have hwf := e.acc_wf
  cases e with
  | tok α ty _ => exact safe_after hwf h (safe_emit _ _)
  | ident => exact safe_after hwf h (safe_lexIdentifier _)
  | number =>
    refine safe_after hwf h (safe_lexNumber _ ?_)
    have h1 := accept_true_lt t digitChars high_digit.nul h
    have h2 := (accept_step t digitChars false).2.1 h h1
    show (t.accept digitChars).1.pos ≤ (t.accept digitChars).1.input.size
    rw [(accept_step t digitChars false).1, h2]; omega

theorem safe_lexExpressionLoop : ∀ (n : Nat) (s : Scan), s.input.size - s.pos < n →
    SafeTo s (fun s' => s'.pos = s.pos → s'.toks = s.toks) (lexExpressionLoop n s) := by
  intro n
  induction n with
  | zero => intro s h; omega
  | succ n ih =>
    intro s hn
    rw [ScanS.lexExpressionLoop_step]
    split
    · refine SafeTo.bind (safe_ignoreRun s [' '] he_sp) fun t hr ht => ?_
      refine dispatch_ind t exprRows (fun row _ hacc => ?_) ⟨.ok ht, fun s' he _ => by cases he; exact ignoreRun_toks hr⟩
      obtain ⟨hs, hadv⟩ := safe_erow row t hacc
      refine SafeTo.bind (hs.of_later ht) fun u hx hu => ?_
      -- the row ended strictly later: the rest of the loop has the fuel, and the whole does not return at `s.pos`
      have := hadv u hx
      have := ht.pos
      obtain ⟨i1, _⟩ := ih u (by rw [hu.input]; omega)
      exact ⟨i1.of_later hu, fun s' he hp => by have := (i1.of_ok he).pos; omega⟩
    · exact ⟨.ok (Later.refl s), fun s' he _ => by cases he; rfl⟩

theorem safe_lexExpression (s : Scan) : Safe s (lexExpression s) := (safe_lexExpressionLoop _ s (by omega)).1

theorem safe_lexOperand (s : Scan) : Safe s (lexOperand s) := by
  rw [lexOperand_eq]
  exact .of_later (later_bracket _ s) <| (safe_ignoreRun _ _ he_sp).bind fun s1 => (safe_lexExpression s1).bind fun s2 =>
    (safe_ignoreRun _ _ he_sp).bind fun s3 => (safe_optIndex s3).bind fun s4 =>
    .of_later (later_bracket _ s4) <| (safe_ignoreRun _ _ he_sp).bind safe_optIndex

theorem safe_lexOpcodeSize (s : Scan) : Safe s (lexOpcodeSize s) := by
  unfold lexOpcodeSize
  simp only []
  exact .ite (fun _ => .of_later (((later_ignore s).trans (later_accept _ _ _)).trans (later_emit _ _))
      ((safe_ignoreRun _ _ he_sp).bind safe_lexOperand))
    fun _ => .err (err_ne _ _) ((later_ignore s).trans (later_next _))

theorem safe_opTail (s : Scan) : Safe s (opTail s) :=
  (Safe.ite (fun _ => .of_later (later_accept s _ _) (safe_lexOpcodeSize _)) fun _ => .pure (Later.refl s)).bind fun _ =>
    (safe_ignoreRun _ _ he_sp).bind safe_lexOperand

theorem safe_nakedAhead (s : Scan) : Safe s (nakedAhead s) :=
  (safe_acceptRun _ _ _ he_spt).bind fun s1 =>
    .ite (fun _ => .of_later (later_accept s1 _ _) (safe_acceptRun _ _ _ he_eol)) fun _ => .pure (later_accept s1 _ _)

theorem safe_lexOpcode (cfg : ScanCfg) (s : Scan) : Safe s (lexOpcode cfg s) := by
  rw [lexOpcode_eq]
  -- the look-ahead is undone: back at `s.pos`, with the tokens of `s`
  have back : ∀ s3, Later s s3 → ∀ ty, Later s (({ s3 with pos := s.pos } : Scan).emit ty) := fun s3 h3 ty =>
    Later.trans (⟨h3.input, Nat.le_refl _, h3.toks⟩ : Later s { s3 with pos := s.pos }) (later_emit _ ty)
  exact .ite (fun _ => (safe_nakedAhead s).bind' fun s3 h3 =>
      .ite (fun _ => .pure (back s3 h3 _)) fun _ => .of_later (back s3 h3 _) (safe_opTail _))
    fun _ => .of_later (later_emit s _) (safe_opTail _)

theorem later_acceptOpcode (cfg : ScanCfg) (s : Scan) : Later s (acceptOpcode cfg s).1 ∧
    ((acceptOpcode cfg s).2 = true → s.pos < (acceptOpcode cfg s).1.pos) := by
  unfold acceptOpcode
  simp only []
  split
  · exact ⟨.of_toks rfl (by simp) rfl, fun _ => by simp⟩
  · exact ⟨Later.refl s, nofun⟩

theorem safe_row (row : Row) (t : Scan) (h : (row.acc.run t).2 = true) :
    SafeTo t (fun s' => t.pos < s'.pos) (row.act t (row.acc.run t).1) := by
  have hin := (later_acc row.acc t).input
  have hwf := row.acc_wf
  have hps := acc_lt row.acc hwf t h
  cases row with
  | expr e => exact safe_erow e t h
  | tok2 c c2 t2 t1 _ _ =>
    exact safe_after hwf h (.pure (by unfold emit2; split
                                      · exact (later_accept _ _ _).trans (later_emit _ _)
                                      · exact later_emit _ _))
  | keyword cfg => exact safe_after hwf h (safe_lexKeyword cfg _)
  | quoted => exact safe_after hwf h (safe_lexQuotedString _)
  | lineComment =>
    refine safe_after hwf h ((safe_lineComment ?_).bind fun s2 => safe_emit s2 _)
    rw [hin]; omega
  | blockComment =>
    refine safe_after hwf h ((safe_blockComment (err_ne _ _) ?_).bind fun s2 => safe_emit s2 _)
    rw [hin]; omega
  | word cfg =>
    change (t.accept letterChars).2 = true at h
    obtain ⟨hb', hbp, hbi⟩ := accept_backup t letterChars high_letter.nul h
    show SafeTo t _ (lexWord cfg (t.accept letterChars).1)
    unfold lexWord
    split
    · rename_i hop
      obtain ⟨ho1, ho2⟩ := later_acceptOpcode cfg (t.accept letterChars).1.backup
      have hs := safe_lexOpcode cfg (acceptOpcode cfg (t.accept letterChars).1.backup).1
      refine ⟨hs.of_later (hb'.trans ho1), fun s' he => ?_⟩
      have := ho2 hop
      have := (hs.of_ok he).pos
      omega
    · refine ⟨(safe_lexIdentifier _).of_later hb', fun s' he => ?_⟩
      have := adv_lexIdentifier _ s' (by rw [accept_snd_congr _ t letterChars hbi hbp]; exact h) he
      omega

theorem safe_lexInitial (cfg : ScanCfg) (s : Scan) :
    SafeTo s (fun s' => s'.pos = s.pos → s'.toks = s.toks ∧ ¬ s'.pos < s'.input.size) (lexInitial cfg s) := by
  rw [lexInitial_eq]
  refine SafeTo.bind (safe_ignoreRun s _ he_ws) fun t hr ht => ?_
  refine dispatch_ind t (initRows cfg) (fun row _ hacc => ?_) ?_
  · obtain ⟨hs, hadv⟩ := safe_row row t hacc
    exact ⟨hs.of_later ht, fun s' he hp => by have := hadv s' he; have := ht.pos; omega⟩
  · rw [initDefault_eq]
    split
    · exact ⟨.err (err_ne _ _) (ht.trans (later_next t)), nofun⟩
    · exact ⟨.ok ht, fun s' he _ => by cases he; exact ⟨ignoreRun_toks hr, ‹_›⟩⟩

/-- before the end of the input `lex_initial` does not return without having consumed input: in this state the
    no-progress guard of `Scanner.scan` never fires -/
theorem lexInitial_lt {cfg : ScanCfg} {s s' : Scan} (h : lexInitial cfg s = .ok s') (hlt : s.pos < s.input.size) :
    s'.input = s.input ∧ s.pos < s'.pos := by
  obtain ⟨hs, hg⟩ := safe_lexInitial cfg s
  have hl := hs.of_ok h
  refine ⟨hl.input, Nat.lt_of_le_of_ne hl.pos fun he => (hg s' h he.symm).2 ?_⟩
  rw [← he, hl.input]; exact hlt

theorem safe_runState (cfg : ScanCfg) (st : ScanState) (s : Scan) : Safe s (runState cfg st s) := by
  cases st with
  | initial => exact (safe_lexInitial cfg s).1
  | expression => exact safe_lexExpression s

theorem keeps_scanLoop (cfg : ScanCfg) (st : ScanState) (n : Nat) (s : Scan) : Keeps s (scanLoop cfg st n s) :=
  scanLoop_rule cfg st (I := fun _ => Later s) (Q := Keeps s) (fun _ h _ => .error h.toks) (fun _ _ h => .ok h)
    (fun _ u e h hr => by have := (safe_runState cfg st u).keeps.of_later h; rwa [hr] at this)
    (fun _ u u' h _ hr => by
      have h' : Later s u' := h.trans ((safe_runState cfg st u).of_ok hr)
      split
      · exact .error (h'.trans (later_next u')).toks
      · exact h') n s (Later.refl s)

/-- `s'` is a later state of the same scan -/
structure Le (s s' : Scan) : Prop where
  input : s'.input = s.input
  pos : s.pos ≤ s'.pos
  toks : s.toks.size ≤ s'.toks.size

theorem Le.refl (s : Scan) : Le s s := ⟨rfl, Nat.le_refl _, Nat.le_refl _⟩

theorem Le.trans {a b c : Scan} (h1 : Le a b) (h2 : Le b c) : Le a c :=
  ⟨by rw [h2.input, h1.input], Nat.le_trans h1.pos h2.pos, Nat.le_trans h1.toks h2.toks⟩

theorem Later.le {s s' : Scan} (h : Later s s') : Le s s' :=
  ⟨h.input, h.pos, by have := h.toks.length_le; simpa using this⟩

/-- `Safe` without the tokens, which is what C15 states: a returned state is a later state of the same scan, an exception
    is not `outOfFuel` -/
def Good (s : Scan) (r : SR) : Prop :=
  match r with
  | .ok s' => Le s s'
  | .error (e, _) => e ≠ .outOfFuel

/-- the same with strict progress of `pos` -/
def Strict (s : Scan) (r : SR) : Prop :=
  match r with
  | .ok s' => Le s s' ∧ s.pos < s'.pos
  | .error (e, _) => e ≠ .outOfFuel

/-- post-condition of a state function: returning with `pos` unchanged means no token was emitted -/
def Prog (s : Scan) (r : SR) : Prop :=
  match r with
  | .ok s' => Le s s' ∧ (s'.pos = s.pos → s'.toks.size = s.toks.size)
  | .error (e, _) => e ≠ .outOfFuel

theorem Strict.good {s : Scan} {r : SR} (h : Strict s r) : Good s r :=
  match r, h with
  | .ok _, h => h.1
  | .error (_, _), h => h

theorem Strict.prog {s : Scan} {r : SR} (h : Strict s r) : Prog s r :=
  match r, h with
  | .ok _, h => ⟨h.1, fun e => absurd e (Nat.ne_of_gt h.2)⟩
  | .error (_, _), h => h

theorem Good.ok {s s' : Scan} (h : Le s s') : Good s (.ok s') := h
theorem Good.err {s s' : Scan} {e : Err} (h : e ≠ .outOfFuel) : Good s (.error (e, s')) := h

theorem Strict.of_lt {s s0 : Scan} {r : SR} (hle : Le s s0) (hlt : s.pos < s0.pos) (h : Good s0 r) : Strict s r :=
  match r, h with
  | .ok _, h => ⟨hle.trans h, Nat.lt_of_lt_of_le hlt h.pos⟩
  | .error (_, _), h => h

theorem Good.bind {s : Scan} {r : SR} {f : Scan → SR} (h : Good s r)
    (hf : ∀ s1, Le s s1 → Good s1 (f s1)) : Good s (r >>= f) := by
  cases r with
  | error e => obtain ⟨e, s2⟩ := e; exact h
  | ok s1 =>
    show Good s (f s1)
    have h2 := hf s1 h
    revert h2
    cases f s1 with
    | ok s2 => exact fun h2 => Le.trans h h2
    | error e => obtain ⟨e, s2⟩ := e; exact id

theorem Prog.of_le_same {s sA : Scan} {r : SR} (hle : Le s sA) (ht : sA.toks = s.toks) (h : Prog sA r) : Prog s r :=
  match r, h with
  | .ok s', h => ⟨hle.trans h.1, fun e => by
      have h1 := hle.pos
      have h2 := h.1.pos
      rw [h.2 (by omega), ht]⟩
  | .error (_, _), h => h

theorem Safe.good {s : Scan} {r : SR} (h : Safe s r) : Good s r := by
  cases h with
  | ok h1 => exact h1.le
  | error he _ => exact he

theorem Safe.prog {s : Scan} {r : SR} (h : Safe s r) (hp : ∀ s', r = .ok s' → s'.pos = s.pos → s'.toks = s.toks) : Prog s r := by
  cases h with
  | ok h1 => exact ⟨h1.le, fun e => by rw [hp _ rfl e]⟩
  | error he _ => exact he

theorem prog_runState (cfg : ScanCfg) (st : ScanState) (s : Scan) : Prog s (runState cfg st s) := by
  cases st with
  | initial => exact (safe_lexInitial cfg s).1.prog fun s' he hp => ((safe_lexInitial cfg s).2 s' he hp).1
  | expression => exact (safe_lexExpressionLoop _ s (Nat.lt_succ_self _)).1.prog (safe_lexExpressionLoop _ s (Nat.lt_succ_self _)).2

/-- an iteration of the outer loop that the no-progress guard lets pass has consumed input -/
theorem runState_lt {cfg : ScanCfg} {st : ScanState} {s s1 : Scan} (hr : runState cfg st s = .ok s1)
    (hg : ¬ (s1.pos == s.pos && s1.toks.size == s.toks.size) = true) : s1.input = s.input ∧ s.pos < s1.pos := by
  have hp := prog_runState cfg st s
  rw [hr] at hp
  have hp1 : Le s s1 ∧ (s1.pos = s.pos → s1.toks.size = s.toks.size) := hp
  refine ⟨hp1.1.input, Nat.lt_of_le_of_ne hp1.1.pos fun he => hg ?_⟩
  rw [Bool.and_eq_true, beq_iff_eq, beq_iff_eq]
  exact ⟨he.symm, hp1.2 he.symm⟩

/-- the loop of `Scanner.scan` never runs out of its fuel `len(input) − pos + 1` -/
theorem scanLoop_total (cfg : ScanCfg) (st : ScanState) : ∀ (n : Nat) (s : Scan), s.input.size - s.pos < n →
    ∀ (e : Err) (s' : Scan), scanLoop cfg st n s = .error (e, s') → e ≠ .outOfFuel :=
  scanLoop_rule cfg st (I := fun n s => s.input.size - s.pos < n) (Q := fun r => ∀ e s', r = .error (e, s') → e ≠ .outOfFuel)
    (fun _ h => absurd h (Nat.not_lt_zero _)) (fun _ _ _ _ _ h => nomatch h)
    (fun _ s _ _ hr e s' he => by have := (safe_runState cfg st s).good; rw [hr, he] at this; exact this)
    (fun n s s1 hn _ hr => by
      split
      · exact fun e s' he => by cases he; exact err_ne _ _
      · obtain ⟨hi, hp⟩ := runState_lt hr ‹_›
        rw [hi]; omega)

/-- **the scanner terminates on every input**: `Scanner.scan` never runs out of fuel, whatever the
    configuration, the initial state and the text -/
theorem scan_total (cfg : ScanCfg) (st : ScanState) (file : Nat) (input : List Char) :
    (scan cfg st file input).error ≠ some .outOfFuel := by
  rw [ScanS.scan_eq_finish]
  cases hr : scanLoop cfg st (input.length + 1) (ScanS.initState file input) with
  | ok s => rw [(ScanS.finish_ok s).2]; exact nofun
  | error er =>
    rw [(ScanS.finish_error er.1 er.2).2]
    exact fun h => scanLoop_total cfg st _ _ (by simp [ScanS.initState]) er.1 er.2 hr (Option.some.inj h)

end A816.ScanT

/-! In the words of C16: `Ext s0 s`, the tokens of `s0` are a prefix of the tokens of `s`; `TP`, a call keeps it, for a
normal return and for the state an exception leaves.  This is the token part of `Keeps`. -/

namespace A816.ScanK
open A816 Scan ScanB ScanT ScanS

def Ext (s0 s : Scan) : Prop := s0.toks.toList <+: s.toks.toList

def TP (s0 : Scan) (r : SR) : Prop :=
  match r with
  | .ok s' => Ext s0 s'
  | .error (_, s') => Ext s0 s'

theorem Ext.refl (s : Scan) : Ext s s := List.prefix_refl _

theorem Ext.accept {s0 s : Scan} (e : Ext s0 s) (c : List Char) (n : Bool) : Ext s0 (s.accept c n).1 := by
  unfold Ext; rw [accept_toks]; exact e
theorem Ext.ignore {s0 s : Scan} (e : Ext s0 s) : Ext s0 s.ignore := e
theorem Ext.backup {s0 s : Scan} (e : Ext s0 s) : Ext s0 s.backup := e

theorem TP.ok {s0 s : Scan} (e : Ext s0 s) : TP s0 (.ok s) := e
theorem TP.err {s0 s : Scan} (e : Ext s0 s) (x : Err) : TP s0 (.error (x, s)) := e

theorem tp_scanLoop (cfg : ScanCfg) (st : ScanState) (s0 : Scan) : ∀ (n : Nat) (s : Scan), Ext s0 s →
    TP s0 (scanLoop cfg st n s) := by
  intro n s e
  have h := keeps_scanLoop cfg st n s
  generalize scanLoop cfg st n s = r at h
  cases h with
  | ok h1 => exact e.trans h1.toks
  | error h => exact e.trans h

/-- the tokens at any point of a scan are a prefix of the tokens of its result -/
theorem finish_prefix (s0 : Scan) (r : Except (Err × Scan) Scan) (h : TP s0 r) :
    s0.toks.toList <+: (finish r).toks.toList := by
  cases r with
  | ok s => rw [(finish_ok s).1]; exact List.IsPrefix.trans h (later_emit s .EOF).toks
  | error x => rw [(finish_error x.1 x.2).1]; exact h

end A816.ScanK
