import A816.Proofs.ScanLocal
import A816.Proofs.ScanPos
/-!
# The look-ahead of `lex_opcode` for mnemonics that may stand alone (helper lemma for C16)

`lex_opcode` decides between `OPCODE_NAKED` (no operand follows on the line) and `OPCODE` by looking ahead over blanks, tabs
and a `;` comment to the end of the line, then coming back.  `lexOpcode_naked`: whenever what follows the mnemonic is
blanks / tabs and then the end of the text, a newline, or a `;` (a comment with **any** text), the result is the same:
one `OPCODE_NAKED` token with the mnemonic's text, the scanner back at the between-token point just behind the mnemonic.
An end-of-line comment after such an instruction therefore changes nothing but the COMMENT token it adds
(`comment_at_point` applies at that point).
-/
namespace A816.ScanS
open A816 Scan ScanB ScanT ScanP

/-- all that matters of `more` is its first character (NUL at the end of the text) -/
theorem headD_more {more : List Char} (hmore : more = [] ∨ more.head? = some '\n' ∨ more.head? = some ';') :
    more.headD '\x00' = '\x00' ∨ more.headD '\x00' = '\n' ∨ (more.head? = some ';' ∧ more.headD '\x00' = ';') := by
  rw [List.headD_eq_head?_getD]
  rcases hmore with h | h | h <;> rw [h]
  · exact .inl rfl
  · exact .inr (.inl rfl)
  · exact .inr (.inr ⟨rfl, rfl⟩)

/-- the character behind the mnemonic.  The last disjunct (`ws = []` and `;`) is the only case in which it is a `;`, which
    `accept_opcode` rejects. -/
theorem headD_ws_more {ws more : List Char} (hws : ∀ c ∈ ws, c = ' ' ∨ c = '\t')
    (hmore : more = [] ∨ more.head? = some '\n' ∨ more.head? = some ';') :
    (ws ++ more).headD '\x00' = ' ' ∨ (ws ++ more).headD '\x00' = '\t' ∨ (ws ++ more).headD '\x00' = '\x00' ∨
      (ws ++ more).headD '\x00' = '\n' ∨ (ws = [] ∧ more.head? = some ';' ∧ (ws ++ more).headD '\x00' = ';') := by
  cases ws with
  | cons c w => exact (hws c List.mem_cons_self).elim .inl fun h => .inr (.inl h)
  | nil => exact .inr (.inr ((headD_more hmore).imp_right fun h => h.imp_right fun h => ⟨rfl, h⟩))

/-- the look-ahead of `lex_opcode` over blanks and tabs and then the end of the text, a newline or a `;` comment ends in
    front of a newline or at the end of the text -/
theorem nakedAhead_eol (s : Scan) (ws more : List Char) (hws : ∀ c ∈ ws, c = ' ' ∨ c = '\t')
    (hd : s.input.toList.drop s.pos = ws ++ more) (hmore : more = [] ∨ more.head? = some '\n' ∨ more.head? = some ';') :
    ∃ s3, nakedAhead s = .ok s3 ∧ (s3.peek == '\n' || s3.peek == '\x00') = true := by
  have hx := headD_more hmore
  obtain ⟨s1, hr, _, _⟩ := acceptRun_ok s [' ', '\t'] false he_spt
  -- `accept_run(" \t")` stops in front of `more`
  have hp1 : s1.peek = more.headD '\x00' := by
    refine peek_of_rest s1 ?_
    rw [(acceptRun_dropWhile (by decide) hr).2.1, hd, List.dropWhile_append_of_pos (List.all_eq_true.mp (all_of_eq_or hws rfl rfl))]
    cases more with
    | nil => rfl
    | cons c m =>
      apply List.dropWhile_cons_of_neg
      rcases hx with h | h | ⟨_, h⟩ <;> (rw [show c = _ from h]; decide)
  unfold nakedAhead
  rw [hr, ok_bind]
  by_cases hsemi : more.headD '\x00' = ';'
  · -- a `;` comment: the look-ahead runs to the end of its line
    rw [show s1.accept [';'] = ((s1.next).1, true) by rw [accept_eq, hp1, hsemi]; rfl, if_pos rfl]
    obtain ⟨s3, hr3, _, _⟩ := acceptRun_ok (s1.next).1 ['\n', '\x00'] true he_eol
    refine ⟨s3, hr3, ?_⟩
    have hstop := acceptRun_stops _ s3 _ true hr3
    rwa [accept_neg_snd, Bool.not_eq_false', List.contains_cons, List.contains_cons, List.contains_nil, Bool.or_false] at hstop
  · -- the end of the line or of the text
    rw [show s1.accept [';'] = (s1, false) by
      rw [accept_eq, hp1, if_neg (by rw [List.contains_cons, List.contains_nil, Bool.or_false, beq_iff_eq]; exact hsemi)],
      if_neg Bool.false_ne_true]
    refine ⟨s1, rfl, ?_⟩
    rw [hp1]
    rcases hx with h | h | ⟨_, h⟩
    · rw [h]; rfl
    · rw [h]; rfl
    · exact absurd h hsemi

theorem lexOpcode_naked (cfg : ScanCfg) (s : Scan) (ws more : List Char)
    (hno : cfg.noOperand.contains (asciiLower (s.slice s.start s.pos)) = true)
    (hws : ∀ c ∈ ws, c = ' ' ∨ c = '\t')
    (hd : s.input.toList.drop s.pos = ws ++ more)
    (hmore : more = [] ∨ more.head? = some '\n' ∨ more.head? = some ';') :
    ∃ s4 t, lexOpcode cfg s = .ok s4 ∧ s4.input = s.input ∧ s4.pos = s.pos ∧ s4.start = s.pos ∧
      s4.toks = s.toks.push t ∧ key t = (.OPCODE_NAKED, s.tokenText) ∧ s4.file = s.file := by
  obtain ⟨s3, h3, hc⟩ := nakedAhead_eol s ws more hws hd hmore
  have st := step_nakedAhead h3
  have hpk : (s.peek != '.') = true := by
    rw [peek_of_rest s hd]
    rcases headD_ws_more hws hmore with h | h | h | h | ⟨_, _, h⟩ <;> (rw [h]; rfl)
  -- the look-ahead is undone: back at `s.pos`, with what `s3` has kept of `s`
  rw [lexOpcode_eq, hno, hpk, Bool.and_self, if_pos rfl, h3, ok_bind, if_pos hc]
  refine ⟨_, ⟨.OPCODE_NAKED, ({ s3 with pos := s.pos } : Scan).tokenText, s3.curLine, (s3.start : Int) - s3.lineOffset, s3.file, true⟩,
    rfl, st.input, rfl, rfl, ?_, ?_, st.file⟩
  · show s3.toks.push _ = s.toks.push _
    rw [st.toks]
  · show (TokTy.OPCODE_NAKED, ({ s3 with pos := s.pos } : Scan).tokenText) = _
    unfold Scan.tokenText Scan.slice
    simp only [st.input, st.start]

/-- **a mnemonic that may stand alone, followed by blanks / tabs and then the end of the text, a newline or a `;`
    comment of any text, is one OPCODE_NAKED token**, and the scanner is back at the between-token point just behind the
    mnemonic (where `comment_at_point` / `blanks_between_tokens` apply) -/
theorem lexInitial_naked (cfg : ScanCfg) (s : Scan) (a b c : Char) (ws more : List Char) (hst : s.start = s.pos)
    (hd : s.input.toList.drop s.pos = a :: b :: c :: (ws ++ more))
    (ha : letterChars.contains a = true)
    (hmn : cfg.mnemonics.contains (asciiLower (String.ofList [a, b, c])) = true)
    (hno : cfg.noOperand.contains (asciiLower (String.ofList [a, b, c])) = true)
    (hws : ∀ c ∈ ws, c = ' ' ∨ c = '\t')
    (hmore : more = [] ∨ more.head? = some '\n' ∨ more.head? = some ';')
    (hsep : ws ≠ [] ∨ more.head? ≠ some ';') :
    ∃ s4 t, lexInitial cfg s = .ok s4 ∧ s4.input = s.input ∧ s4.pos = s.pos + 3 ∧ s4.start = s4.pos ∧
      s4.toks = s.toks.push t ∧ key t = (.OPCODE_NAKED, String.ofList [a, b, c]) ∧ s4.file = s.file := by
  -- the letter (`'A'` or above, which nothing that selects an earlier branch is) selects the branch of `lex_initial` that
  -- gives it back and tries `accept_opcode`
  have hq : letterChars.contains s.peek = true := by rw [peek_of_rest s hd]; exact ha
  have hacc : (Row.word cfg).acc.run s = ((s.next).1, true) := by
    show s.accept letterChars = _
    rw [accept_eq, hq]; rfl
  rw [lexInitial_row cfg s hst (fun c => decide ('A' ≤ c)) (decide_eq_true (letter_ge _ (List.contains_iff_mem.mp hq))) 9
    (by decide +kernel) (.word cfg) rfl (by rw [hacc]), hacc]
  show ∃ s4 t, lexWord cfg (s.next).1 = _ ∧ _
  unfold lexWord
  rw [next_backup s (pos_lt_of_drop hd) (high_letter.ne_nl hq)]
  -- `accept_opcode` takes the three letters: the character behind them ends a mnemonic
  have hslice : s.slice s.start (s.pos + 3) = String.ofList [a, b, c] := by
    unfold Scan.slice
    rw [hst, hd, Nat.add_sub_cancel_left]
    rfl
  have hd3 : s.input.toList.drop (s.pos + 3) = ws ++ more := drop_add_of_eq_append (a := [a, b, c]) hd
  have hpk3 : [' ', '\n', '\t', '.', '\x00'].contains (s.peek 3) = true := by
    rw [show s.peek 3 = ({ s with pos := s.pos + 3 } : Scan).peek from rfl, peek_of_rest { s with pos := s.pos + 3 } hd3]
    rcases headD_ws_more hws hmore with h | h | h | h | ⟨hw, h, _⟩
    · rw [h]; rfl
    · rw [h]; rfl
    · rw [h]; rfl
    · rw [h]; rfl
    · exact (hsep.elim (fun h2 => h2 hw) fun h2 => h2 h).elim
  rw [show acceptOpcode cfg s = ({ s with pos := s.pos + 3 }, true) by
    unfold acceptOpcode
    simp only [hslice, hmn, hpk3, Bool.and_self, ↓reduceIte], if_pos rfl]
  obtain ⟨s4, t, h1, h2, h3, h4, h5, h6, h7⟩ := lexOpcode_naked cfg { s with pos := s.pos + 3 } ws more
    (by show cfg.noOperand.contains (asciiLower (s.slice s.start (s.pos + 3))) = true; rw [hslice]; exact hno) hws hd3 hmore
  refine ⟨s4, t, h1, h2, h3, by rw [h4, h3], h5, ?_, h7⟩
  rw [h6]
  show (TokTy.OPCODE_NAKED, s.slice s.start (s.pos + 3)) = _
  rw [hslice]

end A816.ScanS
