import A816.Model.Bytes
/-! `struct.pack` on values in range, when `pack("B")` / `pack("b")` succeed, and an integer packed as 16 + 8 bits
    (`emit_value`, the IPS record header, `long_low_rom_pointer`): it succeeds exactly on a natural number below `2^24`,
    and gives that number's bytes. -/
namespace A816

theorem packB_nat {n : Nat} (h : n < 256) : packB n = some [n] := by
  unfold packB; rw [if_pos (by omega)]; rfl

theorem packB_eq_some {v : Int} {b : List Nat} : packB v = some b ↔ (0 ≤ v ∧ v ≤ 255) ∧ b = [v.toNat] := by
  unfold packB
  split
  · exact ⟨fun h => ⟨‹_›, (Option.some.inj h).symm⟩, fun h => congrArg some h.2.symm⟩
  · exact ⟨nofun, fun h => absurd h.1 ‹_›⟩

theorem packSb_eq_some {v : Int} {b : List Nat} : packSb v = some b ↔ (-128 ≤ v ∧ v ≤ 127) ∧ b = [(v % 256).toNat] := by
  unfold packSb
  split
  · exact ⟨fun h => ⟨‹_›, (Option.some.inj h).symm⟩, fun h => congrArg some h.2.symm⟩
  · exact ⟨nofun, fun h => absurd h.1 ‹_›⟩

theorem packB_length {v : Int} {b : List Nat} (h : packB v = some b) : b.length = 1 :=
  (packB_eq_some.mp h).2 ▸ rfl

theorem packHle_nat {n : Nat} (h : n < 65536) : packHle n = some [n % 256, n / 256] := by
  unfold packHle; rw [if_pos (by omega)]; rfl

theorem packHbe_nat {n : Nat} (h : n < 65536) : packHbe n = some [n / 256, n % 256] := by
  unfold packHbe; rw [if_pos (by omega)]; rfl

/-- the bytes of the low 16 bits and of the rest of `n < 2^24` are the three bytes of `n` -/
theorem bytes_of_halves {n : Nat} (h : n < 16777216) :
    n % 65536 % 256 = n % 256 ∧ n % 65536 / 256 = n / 256 % 256 ∧ n / 65536 = n / 256 / 256 % 256 :=
  ⟨Nat.mod_mod_of_dvd n (by decide), Nat.mod_mul_right_div_self n 256 256,
   by rw [Nat.div_div_eq_div_mul, Nat.mod_eq_of_lt (Nat.div_lt_of_lt_mul h)]⟩

/-- a number is its three big-endian bytes -/
theorem be3_decode (a : Nat) : a / 65536 * 65536 + a / 256 % 256 * 256 + a % 256 = a := by omega

/-- an integer whose part above the low 16 bits is a byte is a natural number below `2^24`; its two parts -/
theorem nat_of_high_byte {v : Int} (h : 0 ≤ v / 65536 ∧ v / 65536 ≤ 255) :
    ∃ n : Nat, n < 16777216 ∧ v = n ∧ v % 65536 = (n % 65536 : Nat) ∧ v / 65536 = (n / 65536 : Nat) := by
  obtain ⟨n, rfl⟩ := Int.eq_ofNat_of_zero_le (show 0 ≤ v by omega)
  exact ⟨n, by omega, rfl, (Int.natCast_emod n 65536).symm, (Int.natCast_ediv n 65536).symm⟩

/-- `struct.pack("<HB", v & 0xFFFF, v >> 16)` -/
theorem packHBle_eq_some {v : Int} {bs : List Nat} :
    packHBle (v % 65536) (v / 65536) = some bs ↔ ∃ n : Nat, n < 16777216 ∧ v = n ∧ bs = leBytes 3 n := by
  unfold packHBle
  by_cases h : 0 ≤ v / 65536 ∧ v / 65536 ≤ 255
  · obtain ⟨n, hn, rfl, e1, e2⟩ := nat_of_high_byte h
    obtain ⟨b0, b1, b2⟩ := bytes_of_halves hn
    rw [e1, e2, packHle_nat (Nat.mod_lt n (by decide)), packB_nat (Nat.div_lt_of_lt_mul hn), b0, b1, b2]
    exact ⟨fun e => ⟨n, hn, rfl, (Option.some.inj e).symm⟩, fun ⟨m, _, e, hb⟩ => by rw [hb, ← Int.ofNat.inj e]; rfl⟩
  · rw [packB, if_neg h]
    exact ⟨by cases packHle (v % 65536) <;> exact nofun, fun ⟨n, hn, e, _⟩ => absurd (by omega) h⟩

/-- `struct.pack(">BH", v >> 16, v & 0xFFFF)` -/
theorem packBHbe_eq_some {v : Int} {bs : List Nat} :
    packBHbe (v / 65536) (v % 65536) = some bs ↔
      ∃ n : Nat, n < 16777216 ∧ v = n ∧ bs = [n / 65536, n / 256 % 256, n % 256] := by
  unfold packBHbe
  by_cases h : 0 ≤ v / 65536 ∧ v / 65536 ≤ 255
  · obtain ⟨n, hn, rfl, e1, e2⟩ := nat_of_high_byte h
    obtain ⟨b0, b1, _⟩ := bytes_of_halves hn
    rw [e1, e2, packHbe_nat (Nat.mod_lt n (by decide)), packB_nat (Nat.div_lt_of_lt_mul hn), b0, b1]
    exact ⟨fun e => ⟨n, hn, rfl, (Option.some.inj e).symm⟩, fun ⟨m, _, e, hb⟩ => by rw [hb, ← Int.ofNat.inj e]; rfl⟩
  · rw [packB, if_neg h]
    exact ⟨nofun, fun ⟨n, hn, e, _⟩ => absurd (by omega) h⟩

end A816
