import A816.Model.Mapping
import A816.Spec.RomMaps
/-! Helper lemmas for C04/C20/C03/C05: the bit-twiddling of `mapping.py` is the textbook arithmetic. -/
namespace A816
open Spec

/-- for the two window sizes, `lowPart` keeps the position in the window -/
theorem lowPart_mod {m : Nat} (h : m = 0x8000 ∨ m = 0x10000) (v : Nat) : lowPart m v = v % m := by
  rcases h with rfl | rfl
  · exact Nat.and_two_pow_sub_one_eq_mod v 15
  · exact Nat.and_two_pow_sub_one_eq_mod v 16

theorem lowPart_32k (v : Nat) : lowPart 0x8000 v = v % 0x8000 := lowPart_mod (.inl rfl) v

/-- for the two window sizes, the low 16 bits of the mask are where the window starts in its bank -/
theorem mask_low {m : Nat} (h : m = 0x8000 ∨ m = 0x10000) : m &&& 0xFFFF = windowStart m := by
  rcases h with rfl | rfl <;> rfl

theorem shl16_or (x y : Nat) (h : y < 65536) : (x <<< 16) ||| y = x * 65536 + y := by
  rw [← Nat.shiftLeft_add_eq_or_of_lt (i := 16) (by simpa using h), Nat.shiftLeft_eq]

theorem shr16 (v : Nat) : v >>> 16 = v / 65536 := by
  rw [Nat.shiftRight_eq_div_pow]

/-- the lookup dict after `lookup[bank] = ident for bank in range(lo, hi + 1)` (`Bus.map`) for each `(ident, lo, hi)` in
    turn, on disjoint ranges, in dict order -/
def bankRuns : List (String × Nat × Nat) → List (Nat × String)
  | [] => []
  | (ident, lo, hi) :: rs => (List.range' lo (hi + 1 - lo)).map (·, ident) ++ bankRuns rs

theorem alookup_bankRuns_nil (b : Nat) : alookup b (bankRuns []) = none := rfl

theorem alookup_bankRuns_cons (b : Nat) (ident : String) (lo hi : Nat) (rs : List (String × Nat × Nat)) :
    alookup b (bankRuns ((ident, lo, hi) :: rs)) =
      if lo ≤ b ∧ b ≤ hi then some ident else alookup b (bankRuns rs) := by
  show alookup b ((List.range' lo (hi + 1 - lo)).map (·, ident) ++ bankRuns rs) = _
  generalize hn : hi + 1 - lo = n
  induction n generalizing lo with
  | zero => rw [if_neg (by omega)]; rfl
  | succ n ih =>
    simp only [List.range'_succ, List.map_cons, List.cons_append, alookup, beq_iff_eq]
    by_cases h : lo = b
    · rw [if_pos h, if_pos (by omega)]
    · rw [if_neg h, ih (lo + 1) (by omega)]; congr 1; apply propext; omega

/-- a bank found in a list of runs lies in the run of the identifier found -/
theorem alookup_bankRuns_some {b : Nat} {ident : String} : ∀ {rs : List (String × Nat × Nat)},
    alookup b (bankRuns rs) = some ident → ∃ lo hi, (ident, lo, hi) ∈ rs ∧ lo ≤ b ∧ b ≤ hi
  | [], h => nomatch h
  | (i, lo, hi) :: rs, h => by
    rw [alookup_bankRuns_cons] at h
    split at h
    · cases h; exact ⟨lo, hi, List.mem_cons_self, ‹_›⟩
    · obtain ⟨lo', hi', hm, hb⟩ := alookup_bankRuns_some h
      exact ⟨lo', hi', List.mem_cons_of_mem _ hm, hb⟩

/-- A ROM mapping of one of the two window sizes the assembler's maps use. -/
def Mapping.RomWF (m : Mapping) : Prop := m.ram = false ∧ (m.mask = 0x8000 ∨ m.mask = 0x10000)
instance (m : Mapping) : Decidable m.RomWF := by unfold Mapping.RomWF; infer_instance

def Mapping.range (m : Mapping) : Spec.Range := ⟨m.lo, m.hi, m.mask⟩

theorem Mapping.physicalAddress_ram (m : Mapping) (h : m.ram = true) (v : Nat) :
    m.physicalAddress v = none := by
  simp [Mapping.physicalAddress, h]

/-- `physical_address` is the textbook offset for in-window addresses of the range. -/
theorem Mapping.physicalAddress_eq_offset (m : Mapping) (wf : m.RomWF) (a : Nat)
    (hlo : m.lo ≤ bankOf a) (hwin : inWindow m.mask a) :
    m.physicalAddress a = some ((Spec.offset m.range a : Nat) : Int) := by
  obtain ⟨hram, hmask⟩ := wf
  unfold Mapping.physicalAddress Spec.offset Mapping.range
  unfold bankOf at *; unfold inWindow windowStart inBank at *
  rw [if_neg (by rw [hram]; decide), lowPart_mod hmask, shr16]
  refine congrArg some ?_
  rcases hmask with h | h <;> simp only [h] at * <;> omega

/-- `logical_address` is the textbook address of an offset. -/
theorem Mapping.logicalAddress_eq_address (m : Mapping) (hmask : m.mask = 0x8000 ∨ m.mask = 0x10000)
    (p : Nat) : m.logicalAddress p = Spec.address m.range p := by
  have hm : p % m.mask < m.mask := Nat.mod_lt p (by omega)
  unfold Mapping.logicalAddress Spec.address Mapping.range
  rw [mask_low hmask, shl16_or _ _ (by unfold windowStart; omega), Nat.add_comm _ m.lo]

/-- offset ∘ address = id, and the address lies in the window of bank `first + p / size`: the position in the window
    `p % size` is below `size ≤ 0x10000`, so bank and position in the bank can be read off the address -/
theorem Spec.offset_address (r : Range) (hs : r.size = 0x8000 ∨ r.size = 0x10000) (p : Nat) :
    Spec.offset r (Spec.address r p) = p ∧ bankOf (Spec.address r p) = r.first + p / r.size ∧
    inWindow r.size (Spec.address r p) := by
  have hm : p % r.size < r.size := Nat.mod_lt p (by rcases hs with h | h <;> omega)
  have hle : r.size ≤ 0x10000 := by rcases hs with h | h <;> omega
  have hb : bankOf (Spec.address r p) = r.first + p / r.size := by
    unfold bankOf Spec.address windowStart; omega
  have hi : inBank (Spec.address r p) = windowStart r.size + p % r.size := by
    unfold inBank Spec.address windowStart; omega
  refine ⟨?_, hb, ?_⟩
  · unfold Spec.offset; rw [hb, hi, Nat.add_sub_cancel_left, Nat.add_sub_cancel_left, Nat.div_add_mod']
  · unfold inWindow; rw [hi]; exact Nat.le_add_right _ _

/-- address ∘ offset = id on in-window addresses of the range. -/
theorem Spec.address_offset (r : Range) (hs : r.size = 0x8000 ∨ r.size = 0x10000) (a : Nat)
    (hlo : r.first ≤ bankOf a) (hwin : inWindow r.size a) :
    Spec.address r (Spec.offset r a) = a := by
  unfold Spec.offset Spec.address bankOf inBank inWindow windowStart inBank at *
  rcases hs with h | h <;> simp only [h] at * <;> omega

/-- the file offset of the textbook address of `p` is `p` -/
theorem Mapping.physicalAddress_address (m : Mapping) (wf : m.RomWF) (p : Nat) :
    m.physicalAddress (Spec.address m.range p) = some (p : Int) := by
  obtain ⟨ho, hb, hw⟩ := Spec.offset_address m.range wf.2 p
  rw [Mapping.physicalAddress_eq_offset m wf _ (hb ▸ Nat.le_add_right _ _) hw, ho]

/-- Addresses as built by `Address.__init__`: the cached mapping is the bus's mapping of the bank. -/
def Address.WF (a : Address) : Prop := a.bus.mappingForBank (a.logical >>> 16) = some a.mapping

/-- a natural number whose bank is mapped is an address -/
theorem Address.mk?_nat {bus : BusCfg} {a : Nat} {m : Mapping} (h : bus.mappingForBank (a >>> 16) = some m) :
    Address.mk? bus (a : Int) = some ⟨bus, a, m⟩ := by
  unfold Address.mk?
  rw [if_neg (by omega), Int.toNat_natCast, h]

theorem Address.mk?_wf {bus : BusCfg} {v : Int} {a : Address} (h : Address.mk? bus v = some a) :
    a.WF ∧ a.bus = bus ∧ (a.logical : Int) = v := by
  unfold Address.mk? at h
  split at h
  · cases h
  · split at h
    · cases h
    · rename_i m hm
      cases h
      refine ⟨?_, rfl, ?_⟩
      · simpa [Address.WF] using hm
      · simp; omega

end A816
