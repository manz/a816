import A816.Model.Parser
import A816.Proofs.ExprPrint
/-!
# The parser reads the printout of every expression tree back as the same node list (`parseExpr_print`, for C06 `C06_classify`)

`_parse_expression` turns the token stream into the flat `ExprNode` list the evaluator works on; the only
decision it takes is whether an OPERATOR token is a prefix operator (in operand position, `-` or `~`) or a
binary one.  `G` is the grammar one call of it reads; the printout of every `Spec.Expr` tree is in `G`
(`printNodes_G`), and on every token sequence in `G` — followed by something that is not an operator — the
model of the parser returns exactly that node list and stops right after it (`parse_G`).
-/
namespace A816.Classify
open A816 Spec

/-- the token a node is printed as -/
def TokIs (t : Tok) (n : ENode) : Prop :=
  match n with
  | .term .number v => t.ty = .NUMBER ∧ t.val = v
  | .term .identifier v => t.ty = .IDENTIFIER ∧ t.val = v
  | .term .other _ => False
  | .binop v => t.ty = .OPERATOR ∧ t.val = v
  | .unop v => t.ty = .OPERATOR ∧ t.val = v ∧ (v = "-" ∨ v = "~")
  | .lparen => t.ty = .LPAREN
  | .rparen => t.ty = .RPAREN

instance (t : Tok) (n : ENode) : Decidable (TokIs t n) := by
  unfold TokIs; split <;> infer_instance

/-- the grammar `_parse_expression` reads: `G true` = one operand (term or parenthesised group),
    `G false` = what one call consumes (operand, prefix operator + rest, operand + binary operator + rest) -/
inductive G : Bool → List ENode → Prop
  | num (v : String) : G true [.term .number v]
  | ident (v : String) : G true [.term .identifier v]
  | paren {l : List ENode} : G false l → G true (.lparen :: l ++ [.rparen])
  | atom {a : List ENode} : G true a → G false a
  | un {l : List ENode} (v : String) : (v = "-" ∨ v = "~") → G false l → G false (.unop v :: l)
  | bin {a l : List ENode} (v : String) : G true a → G false l → G false (a ++ .binop v :: l)

theorem G.append {a b : List ENode} (v : String) (ha : G false a) (hb : G false b) : G false (a ++ .binop v :: b) := by
  generalize hf : false = f at ha
  induction ha with
  | num w => cases hf
  | ident w => cases hf
  | paren _ _ => cases hf
  | atom h _ => exact G.bin v h hb
  | un w hw _ ih => simpa using G.un w hw (ih rfl)
  | bin w h1 _ _ ih2 => simpa [List.append_assoc] using G.bin w h1 (ih2 rfl)

theorem printNodes_G (e : Expr) : G false (printNodes e) := by
  induction e with
  | num l => exact G.atom (G.num _)
  | var x => exact G.atom (G.ident _)
  | un o e ih => exact G.un o.sym (by cases o <;> simp [UOp.sym]) ih
  | bin o l r ihl ihr => exact G.append o.sym ihl ihr
  | paren e ih => exact G.atom (G.paren ih)

/-- the first half of `parseExprNodes` (`parse_split`): the token just read starts an operand or is a prefix operator -/
def atomPart (cfg : ParseCfg) (fuel : Nat) (cur : Tok) : PM (List ENode) :=
  if cur.ty == .LPAREN then do
    let inner ← parseExprNodes cfg fuel
    let c ← pCurrent
    expectTok c .RPAREN
    let _ ← pNext
    pure (ENode.lparen :: inner ++ [ENode.rparen])
  else if cur.ty == .NUMBER then pure [ENode.term .number cur.val]
  else if cur.ty == .IDENTIFIER then pure [ENode.term .identifier cur.val]
  else if cur.ty == .BOOLEAN then pure [ENode.term .other cur.val]
  else if cur.ty == .OPERATOR && (cur.val == "-" || cur.val == "~") then do
    let rest ← parseExprNodes cfg fuel
    pure (ENode.unop cur.val :: rest)
  else pFail cur

/-- the second half: after the operand `toks`, a binary operator and the rest, or nothing -/
def afterAtom (cfg : ParseCfg) (fuel : Nat) (toks : List ENode) : PM (List ENode) := do
  let op ← pCurrent
  if op.ty == .OPERATOR then do
    let _ ← pNext
    let rest ← parseExprNodes cfg fuel
    pure (toks ++ ENode.binop op.val :: rest)
  else pure toks

theorem parse_split (cfg : ParseCfg) (fuel : Nat) :
    parseExprNodes cfg (fuel + 1) = ((pNext >>= atomPart cfg fuel) >>= afterAtom cfg fuel) := by
  have ite_bind {α β} (c : Prop) [Decidable c] (a b : PM α) (f : α → PM β) :
      (if c then a else b) >>= f = if c then a >>= f else b >>= f := by split <;> rfl
  unfold parseExprNodes atomPart
  simp only [ite_bind, bind_assoc, pure_bind]
  rfl

def adv (st : PState) (n : Nat) : PState := { st with pos := st.pos + n }

@[simp] theorem adv_toks (st : PState) (n : Nat) : (adv st n).toks = st.toks := rfl
@[simp] theorem adv_pos (st : PState) (n : Nat) : (adv st n).pos = st.pos + n := rfl

/-- the tokens from position `p` on are the printout of `ns` -/
def Matches (st : PState) (p : Nat) (ns : List ENode) : Prop :=
  ∀ i (h : i < ns.length), TokIs (st.toks.getD (p + i) eofTok) ns[i]

theorem bind_ok {α β} {m : PM α} {f : α → PM β} {st st1 : PState} {a : α} (h : m st = .ok (a, st1)) :
    (m >>= f) st = f a st1 := by
  show (StateT.bind m f) st = _
  unfold StateT.bind
  simp only [h, bind, Except.bind]

/-! The primitives followed by the rest of the program, on the state `{ st with pos := p }`: the proofs below and in
    `ParseOpcode` run a parser function by rewriting with these, the facts about the tokens at hand and, at a call, `bind_ok`
    of what the call returns. -/
section
variable {α : Type} (st : PState) (p : Nat)
theorem run_next (f : Tok → PM α) :
    (pNext >>= f) { st with pos := p } = f (st.toks.getD p eofTok) { st with pos := p + 1 } := rfl
theorem run_cur (f : Tok → PM α) :
    (pCurrent >>= f) { st with pos := p } = f (st.toks.getD p eofTok) { st with pos := p } := rfl
theorem run_peek (f : Tok → PM α) :
    (pPeek >>= f) { st with pos := p } = f (st.toks.getD (p + 1) eofTok) { st with pos := p } := rfl
theorem run_get (f : PState → PM α) (s : PState) : (get >>= f) s = f s s := rfl
theorem run_expect {t : Tok} {ty : TokTy} (h : t.ty = ty) (f : Unit → PM α) (s : PState) :
    (expectTok t ty >>= f) s = f () s := by
  unfold expectTok; rw [h, beq_self_eq_true, if_pos rfl]; rfl
/-- the position reached, up to arithmetic -/
theorem ok_at {β : Type} (a : β) {p q : Nat} (h : p = q) :
    (Except.ok (a, { st with pos := p }) : Except Err (β × PState)) = .ok (a, { st with pos := q }) := h ▸ rfl
end

theorem Matches.tail {st : PState} {p : Nat} {n : ENode} {ns : List ENode} (h : Matches st p (n :: ns)) :
    TokIs (st.toks.getD p eofTok) n ∧ Matches st (p + 1) ns := by
  refine ⟨by have := h 0 (by simp); simp only [Nat.add_zero, List.getElem_cons_zero] at this; exact this, fun i hi => ?_⟩
  have := h (i + 1) (by simp; omega)
  simp only [List.getElem_cons_succ] at this
  rw [show p + (i + 1) = p + 1 + i by omega] at this; exact this

theorem Matches.append {st : PState} {p : Nat} {a b : List ENode} (h : Matches st p (a ++ b)) :
    Matches st p a ∧ Matches st (p + a.length) b := by
  refine ⟨fun i hi => ?_, fun i hi => ?_⟩
  · have := h i (by simp; omega)
    rwa [List.getElem_append_left hi] at this
  · have := h (a.length + i) (by simp; omega)
    rw [List.getElem_append_right (by omega)] at this
    simp only [Nat.add_sub_cancel_left] at this
    rw [show p + (a.length + i) = p + a.length + i by omega] at this; exact this

/-- on tokens in `G` from position `p` on, the parser returns the node list and stops behind it: an operand (`G true`)
    through `atomPart`, what one call reads (`G false`) when the token that follows is not an operator -/
theorem parse_G (cfg : ParseCfg) {f : Bool} {ns : List ENode} (hg : G f ns) :
    ∀ (fuel : Nat) (st : PState) (p : Nat), Matches st p ns →
      (f = true → ns.length ≤ fuel + 1 →
        (pNext >>= atomPart cfg fuel) { st with pos := p } = .ok (ns, { st with pos := p + ns.length })) ∧
      (f = false → ns.length ≤ fuel → (st.toks.getD (p + ns.length) eofTok).ty ≠ .OPERATOR →
        parseExprNodes cfg fuel { st with pos := p } = .ok (ns, { st with pos := p + ns.length })) := by
  induction hg with
  | num v =>
    intro fuel st p hm
    obtain ⟨ht, hv⟩ : _ = TokTy.NUMBER ∧ _ = v := hm.tail.1
    exact ⟨fun _ _ => by rw [run_next, atomPart, ht, hv]; rfl, nofun⟩
  | ident v =>
    intro fuel st p hm
    obtain ⟨ht, hv⟩ : _ = TokTy.IDENTIFIER ∧ _ = v := hm.tail.1
    exact ⟨fun _ _ => by rw [run_next, atomPart, ht, hv]; rfl, nofun⟩
  | @paren l hl ih =>
    intro fuel st p hm
    refine ⟨fun _ hlen => ?_, nofun⟩
    obtain ⟨hlp, hm1⟩ := hm.tail
    obtain ⟨hml, hmr⟩ := Matches.append hm1
    have hrp : (st.toks.getD (p + 1 + l.length) eofTok).ty = .RPAREN := hmr.tail.1
    simp only [List.length_cons, List.length_append, List.length_nil, Nat.zero_add, Nat.add_comm l.length 1,
      ← Nat.add_assoc] at hlen ⊢
    rw [run_next, atomPart, hlp, if_pos (beq_self_eq_true _),
      bind_ok ((ih fuel st (p + 1) hml).2 rfl (by omega) (by rw [hrp]; decide)), run_cur, run_expect hrp, run_next]
    rfl
  | @atom a ha ih =>
    intro fuel st p hm
    refine ⟨nofun, fun _ hlen hf => ?_⟩
    have hpos : 0 < a.length := by cases ha <;> exact Nat.succ_pos _
    obtain ⟨fuel, rfl⟩ : ∃ k, fuel = k + 1 := ⟨fuel - 1, by omega⟩
    rw [parse_split, bind_ok ((ih fuel st p hm).1 rfl hlen), afterAtom, run_cur, if_neg (mt eq_of_beq hf)]
    rfl
  | @un l v hv hl ih =>
    -- the operand part reads the prefix operator and all that follows it
    intro fuel st p hm
    refine ⟨nofun, fun _ hlen hf => ?_⟩
    obtain ⟨⟨ht, hval, _⟩, hm1⟩ := hm.tail
    simp only [List.length_cons, Nat.add_comm l.length 1, ← Nat.add_assoc] at hlen hf ⊢
    obtain ⟨fuel, rfl⟩ : ∃ k, fuel = k + 1 := ⟨fuel - 1, by omega⟩
    have hvv : (TokTy.OPERATOR == TokTy.OPERATOR && (v == "-" || v == "~")) = true := by rcases hv with rfl | rfl <;> decide
    rw [parse_split, bind_assoc, run_next, atomPart, ht, hval, if_neg (by decide), if_neg (by decide), if_neg (by decide),
      if_neg (by decide), if_pos hvv, bind_assoc, bind_ok ((ih fuel st (p + 1) hm1).2 rfl (by omega) hf), pure_bind,
      afterAtom, run_cur, if_neg (mt eq_of_beq hf)]
    rfl
  | @bin a l v ha hl iha ihl =>
    intro fuel st p hm
    refine ⟨nofun, fun _ hlen hf => ?_⟩
    obtain ⟨hma, hmr⟩ := Matches.append hm
    obtain ⟨⟨ht, hval⟩, hml⟩ : (_ = TokTy.OPERATOR ∧ _ = v) ∧ _ := hmr.tail
    simp only [List.length_append, List.length_cons, Nat.add_comm l.length 1, ← Nat.add_assoc] at hlen hf ⊢
    obtain ⟨fuel, rfl⟩ : ∃ k, fuel = k + 1 := ⟨fuel - 1, by omega⟩
    rw [parse_split, bind_ok ((iha fuel st p hma).1 rfl (by omega)), afterAtom, run_cur, ht, if_pos (beq_self_eq_true _),
      run_next, bind_ok ((ihl fuel st (p + a.length + 1) hml).2 rfl (by omega) hf), hval]
    rfl

/-- `parse_expression` on the printout of a tree at any position -/
theorem parseExpr_at (cfg : ParseCfg) (e : Expr) (fuel : Nat) (st : PState) (p : Nat)
    (hm : Matches st p (printNodes e)) (hfuel : (printNodes e).length < fuel)
    (hf : (st.toks.getD (p + (printNodes e).length) eofTok).ty ≠ .OPERATOR) :
    parseExpr cfg fuel { st with pos := p } =
      .ok (⟨printNodes e, st.toks.getD p eofTok⟩, { st with pos := p + (printNodes e).length }) := by
  obtain ⟨fuel, rfl⟩ : ∃ k, fuel = k + 1 := ⟨fuel - 1, by omega⟩
  rw [parseExpr, run_cur, bind_ok ((parse_G cfg (printNodes_G e) fuel st p hm).2 rfl (by omega) hf)]
  rfl

/-- **classification** (C06 `C06_classify`): on the printout of any expression tree at the current position, followed by
    a token that is not an operator, `parse_expression` returns exactly the tree's node list and stops right behind it -/
theorem parseExpr_print (cfg : ParseCfg) (e : Expr) (fuel : Nat) (st : PState)
    (hm : Matches st st.pos (printNodes e)) (hfuel : (printNodes e).length < fuel)
    (hf : (st.toks.getD (st.pos + (printNodes e).length) eofTok).ty ≠ .OPERATOR) :
    parseExpr cfg fuel st = .ok (⟨printNodes e, st.toks.getD st.pos eofTok⟩, adv st (printNodes e).length) :=
  parseExpr_at cfg e fuel st st.pos hm hfuel hf

/-- the number of tokens consumed does not depend on anything but the printout: the parser never reads
    past the first token after the expression -/
theorem parseExpr_print_local (cfg : ParseCfg) (e : Expr) (fuel : Nat) (st st' : PState)
    (hm : Matches st st.pos (printNodes e)) (hm' : Matches st' st'.pos (printNodes e))
    (hfuel : (printNodes e).length < fuel)
    (hf : (st.toks.getD (st.pos + (printNodes e).length) eofTok).ty ≠ .OPERATOR)
    (hf' : (st'.toks.getD (st'.pos + (printNodes e).length) eofTok).ty ≠ .OPERATOR) :
    (parseExpr cfg fuel st).toOption.map (·.1.nodes) = (parseExpr cfg fuel st').toOption.map (·.1.nodes) := by
  rw [parseExpr_print cfg e fuel st hm hfuel hf, parseExpr_print cfg e fuel st' hm' hfuel hf']
  rfl

end A816.Classify
