-- root of the library: every model, spec, proof and property module (generated by bin/setup)
import A816.Model.Ast
import A816.Model.Bytes
import A816.Model.Codegen
import A816.Model.Cpu
import A816.Model.Expr
import A816.Model.Front
import A816.Model.Ips
import A816.Model.Legacy
import A816.Model.Mapping
import A816.Model.Nodes
import A816.Model.OpsAsm
import A816.Model.OpsBasic
import A816.Model.OpsCpu
import A816.Model.OpsExpr
import A816.Model.OpsFront
import A816.Model.OpsIps
import A816.Model.OpsParse
import A816.Model.OpsScan
import A816.Model.OpsTable
import A816.Model.Parser
import A816.Model.Program
import A816.Model.Resolver
import A816.Model.Scanner
import A816.Model.Table
import A816.Model.Types
import A816.Proofs.Bytes
import A816.Proofs.Cpu
import A816.Proofs.Emit
import A816.Proofs.Expr
import A816.Proofs.ExprClassify
import A816.Proofs.ExprLiteral
import A816.Proofs.ExprMain
import A816.Proofs.ExprPrint
import A816.Proofs.Ips
import A816.Proofs.LabelScopes
import A816.Proofs.ListFacts
import A816.Proofs.Mapping
import A816.Proofs.NodeSteps
import A816.Proofs.ParseFuel
import A816.Proofs.ParseOpcode
import A816.Proofs.Replay
import A816.Proofs.ResolverOps
import A816.Proofs.ScanBasic
import A816.Proofs.ScanComment
import A816.Proofs.ScanExt
import A816.Proofs.ScanLocal
import A816.Proofs.ScanNaked
import A816.Proofs.ScanPos
import A816.Proofs.ScanProg
import A816.Proofs.ScanSim
import A816.Proofs.ScanTotal
import A816.Proofs.Table
import A816.Proofs.Unrelated
import A816.Proofs.UnrelatedPass
import A816.Props.C01
import A816.Props.C02
import A816.Props.C03
import A816.Props.C04
import A816.Props.C05
import A816.Props.C06
import A816.Props.C07
import A816.Props.C08
import A816.Props.C09
import A816.Props.C10
import A816.Props.C11
import A816.Props.C12
import A816.Props.C13
import A816.Props.C14
import A816.Props.C15
import A816.Props.C16
import A816.Props.C17
import A816.Props.C18
import A816.Props.C19
import A816.Props.C20
import A816.PyInt
import A816.Spec.Expr
import A816.Spec.ISA
import A816.Spec.Instr
import A816.Spec.Ips
import A816.Spec.RomMaps
import A816.Spec.Supported
import A816.Spec.Table
import A816.Gen.Tables
